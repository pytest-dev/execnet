/-
L1 (serializer): `_Serializer` (encoder) and `Unserializer` (21-opcode stack machine) of
`gateway_base.py`, dump format version 2.

The opcode letters and layouts in this file are the *frozen specification* of the format (C12):
they are written from the format description, not regenerated from the code.  The translator
regenerates `Generated/Tables.lean` from the code and `Props/C12.lean` proves the two agree.
-/
import ExecnetVerif.Model.Value
namespace ExecnetVerif

def opBUILDTUPLE : UInt8 := 64  -- '@'
def opBYTES      : UInt8 := 65  -- 'A'
def opCHANNEL    : UInt8 := 66  -- 'B'
def opFALSE      : UInt8 := 67  -- 'C'
def opFLOAT      : UInt8 := 68  -- 'D'
def opFROZENSET  : UInt8 := 69  -- 'E'
def opINT        : UInt8 := 70  -- 'F'
def opLONG       : UInt8 := 71  -- 'G'
def opLONGINT    : UInt8 := 72  -- 'H'
def opLONGLONG   : UInt8 := 73  -- 'I'
def opNEWDICT    : UInt8 := 74  -- 'J'
def opNEWLIST    : UInt8 := 75  -- 'K'
def opNONE       : UInt8 := 76  -- 'L'
def opPY2STRING  : UInt8 := 77  -- 'M'
def opPY3STRING  : UInt8 := 78  -- 'N'
def opSET        : UInt8 := 79  -- 'O'
def opSETITEM    : UInt8 := 80  -- 'P'
def opSTOP       : UInt8 := 81  -- 'Q'
def opTRUE       : UInt8 := 82  -- 'R'
def opUNICODE    : UInt8 := 83  -- 'S'
def opCOMPLEX    : UInt8 := 84  -- 'T'

def dumpVersion : UInt8 := 2

/-- the frozen opcode table of dump format 2: (name, letter) -/
def specOpcodeTable : List (String × Nat) :=
  [("BUILDTUPLE", 64), ("BYTES", 65), ("CHANNEL", 66), ("FALSE", 67), ("FLOAT", 68),
   ("FROZENSET", 69), ("INT", 70), ("LONG", 71), ("LONGINT", 72), ("LONGLONG", 73),
   ("NEWDICT", 74), ("NEWLIST", 75), ("NONE", 76), ("PY2STRING", 77), ("PY3STRING", 78),
   ("SET", 79), ("SETITEM", 80), ("STOP", 81), ("TRUE", 82), ("UNICODE", 83), ("COMPLEX", 84)]

/-! ## encoder -/

/-- `_save_integral` with INT/LONGINT: 4-byte two's complement when the value fits a signed
32-bit field, decimal text otherwise (both sides of the range). -/
def encInt (i : Int) : Bytes :=
  if inI32 i then opINT :: packI32 i
  else opLONGINT :: (be4 (intText i).length ++ intText i)

mutual
/-- the bytes `_Serializer._save` writes for a value (meaningful when `dumpErr v = none`) -/
def enc : PyVal → Bytes
  | .none => [opNONE]
  | .bool b => if b then [opTRUE] else [opFALSE]
  | .int i => encInt i
  | .float b => opFLOAT :: be8 b
  | .complex r i => opCOMPLEX :: (be8 r ++ be8 i)
  | .bytes b => opBYTES :: (be4 b.length ++ b)
  | .str s => opPY3STRING :: (be4 (utf8Encode s).length ++ utf8Encode s)
  | .badstr => []
  | .list xs => opNEWLIST :: (be4 xs.length ++ encItems 0 xs)
  | .tuple xs => encAll xs ++ opBUILDTUPLE :: be4 xs.length
  | .dict kvs => opNEWDICT :: encPairs kvs
  | .set xs => encAll xs ++ opSET :: be4 xs.length
  | .frozenset xs => encAll xs ++ opFROZENSET :: be4 xs.length
  | .channel id => opCHANNEL :: packI32 id
  | .foreign => []
/-- list items: index, item, SETITEM -/
def encItems : Nat → List PyVal → Bytes
  | _, [] => []
  | i, x :: xs => encInt i ++ (enc x ++ opSETITEM :: encItems (i + 1) xs)
def encAll : List PyVal → Bytes
  | [] => []
  | x :: xs => enc x ++ encAll xs
/-- dict items: key, value, SETITEM -/
def encPairs : List (PyVal × PyVal) → Bytes
  | [] => []
  | (k, v) :: rest => enc k ++ (enc v ++ opSETITEM :: encPairs rest)
end

inductive DumpErr where
  /-- DumpError("can't serialize <type>") -/
  | cantSerialize
  /-- DumpError("strings must be utf-8 encodable") -/
  | notUtf8
  /-- DumpError("... is too long" / "int must be less than") -/
  | tooLong
  /-- not a DumpError: CPython's ValueError for int -> str conversion above
  `sys.get_int_max_str_digits()` digits (known finding D3) -/
  | digitLimit
  deriving DecidableEq, Repr

def lenErr (n : Nat) : Option DumpErr := if n < two31 then none else some .tooLong

def orElse' (a : Option DumpErr) (b : Option DumpErr) : Option DumpErr :=
  match a with
  | some e => some e
  | none => b

mutual
/-- the first error `_save` runs into, in its traversal order; `none` = the dump succeeds -/
def dumpErr : PyVal → Option DumpErr
  | .none | .bool _ | .float _ | .complex _ _ => none
  | .int i => if inI32 i then none else if numDigits i > maxStrDigits then some .digitLimit else none
  | .bytes b => lenErr b.length
  | .str s => lenErr (utf8Encode s).length
  | .badstr => some .notUtf8
  | .list xs => orElse' (lenErr xs.length) (dumpErrAll xs)
  | .tuple xs => orElse' (dumpErrAll xs) (lenErr xs.length)
  | .dict kvs => dumpErrPairs kvs
  | .set xs => orElse' (dumpErrAll xs) (lenErr xs.length)
  | .frozenset xs => orElse' (dumpErrAll xs) (lenErr xs.length)
  | .channel id => if id ≤ 2147483647 then none else some .tooLong
  | .foreign => some .cantSerialize
def dumpErrAll : List PyVal → Option DumpErr
  | [] => none
  | x :: xs => orElse' (dumpErr x) (dumpErrAll xs)
def dumpErrPairs : List (PyVal × PyVal) → Option DumpErr
  | [] => none
  | (k, v) :: rest => orElse' (dumpErr k) (orElse' (dumpErr v) (dumpErrPairs rest))
end

/-- `dumps_internal(v)` -/
def encodeInternal (v : PyVal) : Except DumpErr Bytes :=
  match dumpErr v with
  | some e => .error e
  | none => .ok (enc v ++ [opSTOP])

/-- `dumps(v)` -/
def dumps (v : PyVal) : Except DumpErr Bytes :=
  match dumpErr v with
  | some e => .error e
  | none => .ok (dumpVersion :: (enc v ++ [opSTOP]))

/-! ## loader -/

structure Cfg where
  py2str_as_py3str : Bool
  py3str_as_py2str : Bool
  /-- a channel factory is available (`loads_internal` inside a gateway) -/
  hasFactory : Bool
  /-- finite memory: a NEWLIST count above this limit ends in MemoryError (`none` = unbounded).
  The real loader trusts the count (known finding D6); the limit lets the model say so without
  building the list. -/
  memLimit : Option Nat := none

/-- `loads`/`load` defaults -/
def cfgPublic : Cfg := ⟨false, false, false, none⟩

inductive LoadErr where
  /-- EOFError: the input ended early -/
  | eof
  /-- DataFormatError (LoadError) -/
  | dataFormat
  /-- MemoryError: a length field demanded more memory than is available (known finding D6) -/
  | memory
  deriving DecidableEq, Repr

inductive Res where
  | cont (rest : Bytes) (stack : List PyVal)
  | stop (stack : List PyVal)
  | err (e : LoadErr)

/-- `_read_int4` with an exact-length read -/
def rdI32 (bs : Bytes) (k : Int → Bytes → Res) : Res :=
  match rd4 bs with
  | some (n, r) => k (ofU32 n) r
  | none => .err .eof

/-- `_read_byte_string`: signed length, exact-length read; a negative length is corruption -/
def rdBytes (bs : Bytes) (k : Bytes → Bytes → Res) : Res :=
  rdI32 bs fun n r =>
    if n < 0 then .err .dataFormat
    else match readN n.toNat r with
      | some (b, r') => k b r'
      | none => .err .eof

/-- Python slice `stack[-n:]` / `del stack[-n:]` for a non-zero `n` on a stack whose top is the
list head: the items in push order and the remaining stack. -/
def popN (n : Int) (st : List PyVal) : List PyVal × List PyVal :=
  if n > 0 then ((st.take n.toNat).reverse, st.drop n.toNat)
  else ((st.reverse.drop (-n).toNat), (st.reverse.take (-n).toNat).reverse)

inductive Coll where | tuple | set | frozenset

def buildColl (c : Coll) (n : Int) (rest : Bytes) (st : List PyVal) : Res :=
  let p := if n = 0 then ([], st) else popN n st
  match c with
  | .tuple => .cont rest (.tuple p.1 :: p.2)
  | .set => if hashableAll p.1 then .cont rest (.set (dedup [] p.1) :: p.2) else .err .dataFormat
  | .frozenset =>
    if hashableAll p.1 then .cont rest (.frozenset (dedup [] p.1) :: p.2) else .err .dataFormat

/-- Python list index from a key object: ints and bools index, negative counts from the end -/
def listIndex (k : PyVal) (len : Nat) : Option Nat :=
  let i? : Option Int := match k with
    | .int i => some i
    | .bool b => some (if b then 1 else 0)
    | _ => Option.none
  match i? with
  | some i =>
    let j := if i < 0 then i + len else i
    if 0 ≤ j ∧ j < len then some j.toNat else Option.none
  | Option.none => Option.none

def setItem (rest : Bytes) (st : List PyVal) : Res :=
  match st with
  | v :: k :: tgt :: below =>
    match tgt with
    | .list xs =>
      match listIndex k xs.length with
      | some j => .cont rest (.list (xs.set j v) :: below)
      | Option.none => .err .dataFormat
    | .dict kvs =>
      if hashable k then .cont rest (.dict (dictInsert k v kvs) :: below) else .err .dataFormat
    | _ => .err .dataFormat
  | _ => .err .dataFormat

/-- does a list of `n` entries exceed the available memory? -/
def memExceeded (cfg : Cfg) (n : Nat) : Bool :=
  match cfg.memLimit with
  | some m => decide (n > m)
  | Option.none => false

/-- one opcode of `Unserializer.load` -/
def step (cfg : Cfg) (op : UInt8) (rest : Bytes) (st : List PyVal) : Res :=
  match op.toNat with
  | 76 => .cont rest (.none :: st)
  | 82 => .cont rest (.bool true :: st)
  | 67 => .cont rest (.bool false :: st)
  | 70 => rdI32 rest fun i r => .cont r (.int i :: st)
  | 71 => rdI32 rest fun i r => .cont r (.int i :: st)
  | 72 => rdBytes rest fun b r =>
      match parseInt b with
      | some i => .cont r (.int i :: st)
      | Option.none => .err .dataFormat
  | 73 => rdBytes rest fun b r =>
      match parseInt b with
      | some i => .cont r (.int i :: st)
      | Option.none => .err .dataFormat
  | 68 => match rd8 rest with
      | some (b, r) => .cont r (.float b :: st)
      | Option.none => .err .eof
  | 84 => match rd8 rest with
      | some (re, r1) =>
        match rd8 r1 with
        | some (im, r2) => .cont r2 (.complex re im :: st)
        | Option.none => .err .eof
      | Option.none => .err .eof
  | 65 => rdBytes rest fun b r => .cont r (.bytes b :: st)
  | 78 => rdBytes rest fun b r =>
      if cfg.py3str_as_py2str then .cont r (.bytes b :: st)
      else match utf8Decode b with
        | some s => .cont r (.str s :: st)
        | Option.none => .err .dataFormat
  | 77 => rdBytes rest fun b r =>
      if cfg.py2str_as_py3str then .cont r (.str (latin1Decode b) :: st)
      else .cont r (.bytes b :: st)
  | 83 => rdBytes rest fun b r =>
      match utf8Decode b with
      | some s => .cont r (.str s :: st)
      | Option.none => .err .dataFormat
  | 75 => rdI32 rest fun n r =>
      if memExceeded cfg n.toNat then .err .memory else .cont r (.list (List.replicate n.toNat .none) :: st)
  | 74 => .cont rest (.dict [] :: st)
  | 80 => setItem rest st
  | 64 => rdI32 rest fun n r => buildColl .tuple n r st
  | 79 => rdI32 rest fun n r => buildColl .set n r st
  | 69 => rdI32 rest fun n r => buildColl .frozenset n r st
  | 66 => rdI32 rest fun id r =>
      if cfg.hasFactory then .cont r (.channel id :: st) else .err .dataFormat
  | 81 => .stop st
  | _ => .err .dataFormat

/-! ### lemmas, not model: what one opcode can do

From here to `step_len` nothing is modelled.  The section stands in the middle of the loader because
`run` below is accepted only with `step_len` as its termination proof; the model goes on at `finish`. -/

/-- the values a single opcode pushes by itself -/
inductive Pushed (cfg : Cfg) : PyVal → Prop
  | none : Pushed cfg .none
  | bool b : Pushed cfg (.bool b)
  | int i : Pushed cfg (.int i)
  | float b : Pushed cfg (.float b)
  | complex r i : Pushed cfg (.complex r i)
  | bytes b : Pushed cfg (.bytes b)
  | str s : Pushed cfg (.str s)
  | newlist n : Pushed cfg (.list (List.replicate n .none))
  | newdict : Pushed cfg (.dict [])
  | channel id : cfg.hasFactory = true → Pushed cfg (.channel id)

/-- `buildColl` and `setItem` only hand the unread input on: whether they fail, and the stack they
leave, do not depend on it -/
theorem buildColl_shape (c : Coll) (n : Int) (st : List PyVal) :
    (∀ r, buildColl c n r st = .err .dataFormat) ∨ ∃ s, ∀ r, buildColl c n r st = .cont r s := by
  unfold buildColl
  generalize (if n = 0 then ([], st) else popN n st) = p
  cases c
  · exact .inr ⟨_, fun _ => rfl⟩
  · dsimp only; split
    · exact .inr ⟨_, fun _ => rfl⟩
    · exact .inl fun _ => rfl
  · dsimp only; split
    · exact .inr ⟨_, fun _ => rfl⟩
    · exact .inl fun _ => rfl

theorem setItem_shape (st : List PyVal) :
    (∀ r, setItem r st = .err .dataFormat) ∨ ∃ s, ∀ r, setItem r st = .cont r s := by
  unfold setItem
  split
  · split
    · split
      · exact .inr ⟨_, fun _ => rfl⟩
      · exact .inl fun _ => rfl
    · split
      · exact .inr ⟨_, fun _ => rfl⟩
      · exact .inl fun _ => rfl
    · exact .inl fun _ => rfl
  · exact .inl fun _ => rfl

/-- what one opcode can do to the stack -/
inductive StackStep (cfg : Cfg) (st : List PyVal) : List PyVal → Prop
  | push {v} : Pushed cfg v → StackStep cfg st (v :: st)
  | coll {c n r s} : buildColl c n r st = .cont r s → StackStep cfg st s
  | setItem {r s} : setItem r st = .cont r s → StackStep cfg st s

section readers
variable {P : Res → Res → Prop} {t : Bytes} (eof : ∀ x, P (.err .eof) x)
include eof

/-- the three readers in the continuation-passing form `step` uses them in: on `bs` and on `bs ++ t`
they fail alike or hand the same item to the continuation, the second with `t` behind the rest;
only "ran out of input" on `bs` may turn into anything -/
theorem rdI32_elim {bs : Bytes} {k : Int → Bytes → Res}
    (hk : ∀ i r, r.length ≤ bs.length → P (k i r) (k i (r ++ t))) : P (rdI32 bs k) (rdI32 (bs ++ t) k) := by
  unfold rdI32
  cases h : rd4 bs with
  | none => exact eof _
  | some x => simp only [rd4_append h]; exact hk _ _ (rd4_len h)

theorem rdBytes_elim {bs : Bytes} {k : Bytes → Bytes → Res} (df : P (.err .dataFormat) (.err .dataFormat))
    (hk : ∀ b r, r.length ≤ bs.length → P (k b r) (k b (r ++ t))) : P (rdBytes bs k) (rdBytes (bs ++ t) k) := by
  unfold rdBytes
  refine rdI32_elim eof fun n r hr => ?_
  split
  · exact df
  · cases h : readN n.toNat r with
    | none => exact eof _
    | some x => simp only [readN_append h]; exact hk _ _ (Nat.le_trans (readN_len h) hr)

theorem rd8_elim {bs : Bytes} {k : Nat → Bytes → Res}
    (hk : ∀ n r, r.length ≤ bs.length → P (k n r) (k n (r ++ t))) :
    P (match rd8 bs with | some (n, r) => k n r | none => .err .eof)
      (match rd8 (bs ++ t) with | some (n, r) => k n r | none => .err .eof) := by
  cases h : rd8 bs with
  | none => exact eof _
  | some x => simp only [rd8_append h]; exact hk _ _ (rd8_len h)

end readers

/-- The outcome of one opcode on `rest`, and beside it the outcome on `rest` with `t` appended: always
one of these five pairs.  (With a `P` that ignores its second argument this lists the outcomes of one
opcode: `step_elim`.) -/
theorem step_elim₂ {P : Res → Res → Prop} (cfg : Cfg) (op : UInt8) (rest t : Bytes) (st : List PyVal)
    (cont : ∀ r s, r.length ≤ rest.length → StackStep cfg st s → P (.cont r s) (.cont (r ++ t) s))
    (stop : P (.stop st) (.stop st))
    (eof : ∀ x, P (.err .eof) x) (df : P (.err .dataFormat) (.err .dataFormat))
    (mem : cfg.memLimit ≠ none → P (.err .memory) (.err .memory)) :
    P (step cfg op rest st) (step cfg op (rest ++ t) st) := by
  have hpush : ∀ v r, Pushed cfg v → r.length ≤ rest.length → P (.cont r (v :: st)) (.cont (r ++ t) (v :: st)) :=
    fun v r hv hr => cont r _ hr (.push hv)
  have hcoll : ∀ c n r, r.length ≤ rest.length → P (buildColl c n r st) (buildColl c n (r ++ t) st) := by
    intro c n r hr
    rcases buildColl_shape c n st with h | ⟨s, h⟩
    · rw [h, h]; exact df
    · rw [h, h]; exact cont r s hr (.coll (h r))
  have hset : P (setItem rest st) (setItem (rest ++ t) st) := by
    rcases setItem_shape st with h | ⟨s, h⟩
    · rw [h, h]; exact df
    · rw [h, h]; exact cont rest s (Nat.le_refl _) (.setItem (h rest))
  have le := Nat.le_refl rest.length
  unfold step
  split
  · exact hpush _ _ .none le
  · exact hpush _ _ (.bool _) le
  · exact hpush _ _ (.bool _) le
  · exact rdI32_elim eof fun _ _ => hpush _ _ (.int _)
  · exact rdI32_elim eof fun _ _ => hpush _ _ (.int _)
  · refine rdBytes_elim eof df fun _ _ h => ?_
    split
    · exact hpush _ _ (.int _) h
    · exact df
  · refine rdBytes_elim eof df fun _ _ h => ?_
    split
    · exact hpush _ _ (.int _) h
    · exact df
  · exact rd8_elim eof fun _ _ => hpush _ _ (.float _)
  · exact rd8_elim eof fun _ _ h => rd8_elim eof fun _ _ h' => hpush _ _ (.complex _ _) (Nat.le_trans h' h)
  · exact rdBytes_elim eof df fun _ _ => hpush _ _ (.bytes _)
  · refine rdBytes_elim eof df fun _ _ h => ?_
    split
    · exact hpush _ _ (.bytes _) h
    · split
      · exact hpush _ _ (.str _) h
      · exact df
  · refine rdBytes_elim eof df fun _ _ h => ?_
    split
    · exact hpush _ _ (.str _) h
    · exact hpush _ _ (.bytes _) h
  · refine rdBytes_elim eof df fun _ _ h => ?_
    split
    · exact hpush _ _ (.str _) h
    · exact df
  · refine rdI32_elim eof fun n _ h => ?_
    split
    · rename_i hx
      -- `memExceeded` holds only under a limit
      refine mem fun hm => ?_
      simp [memExceeded, hm] at hx
    · exact hpush _ _ (.newlist _) h
  · exact hpush _ _ .newdict le
  · exact hset
  · exact rdI32_elim eof fun _ _ => hcoll _ _ _
  · exact rdI32_elim eof fun _ _ => hcoll _ _ _
  · exact rdI32_elim eof fun _ _ => hcoll _ _ _
  · refine rdI32_elim eof fun _ _ h => ?_
    split
    · exact hpush _ _ (.channel _ ‹_›) h
    · exact df
  · exact stop
  · exact df

theorem step_elim {P : Res → Prop} (cfg : Cfg) (op : UInt8) (rest : Bytes) (st : List PyVal)
    (cont : ∀ r s, r.length ≤ rest.length → StackStep cfg st s → P (.cont r s)) (stop : P (.stop st))
    (eof : P (.err .eof)) (df : P (.err .dataFormat)) (mem : cfg.memLimit ≠ none → P (.err .memory)) :
    P (step cfg op rest st) :=
  step_elim₂ (P := fun x _ => P x) cfg op rest [] st cont stop (fun _ => eof) df mem

/-- every opcode consumes input monotonically: this is what makes `run` terminate, i.e. what
makes `loads` total on every byte string (C13) -/
theorem step_len {cfg op rest st r' st'} (h : step cfg op rest st = .cont r' st') :
    r'.length ≤ rest.length := by
  revert h
  apply step_elim (P := fun x => x = .cont r' st' → r'.length ≤ rest.length)
  case cont => intro r s hr _ h; cases h; exact hr
  all_goals simp

/-- STOP: exactly one value must be on the stack -/
def finish : List PyVal → Except LoadErr PyVal
  | [v] => .ok v
  | _ => .error .dataFormat

/-- `Unserializer.load` main loop: well-founded on the remaining input -/
def run (cfg : Cfg) (input : Bytes) (st : List PyVal) : Except LoadErr PyVal :=
  match input with
  | [] => .error .eof
  | op :: rest =>
    match h : step cfg op rest st with
    | .cont rest' st' => run cfg rest' st'
    | .stop st' => finish st'
    | .err e => .error e
termination_by input.length
decreasing_by
  have := step_len h
  simp; omega

/-- `loads_internal(bytes)` -/
def loadsInternal (cfg : Cfg) (bs : Bytes) : Except LoadErr PyVal := run cfg bs []

/-- `loads(bytes)` / `load(stream)`: version byte first -/
def loads (cfg : Cfg) (bs : Bytes) : Except LoadErr PyVal :=
  match bs with
  | [] => .error .eof
  | v :: rest => if v = dumpVersion then run cfg rest [] else .error .dataFormat

end ExecnetVerif
