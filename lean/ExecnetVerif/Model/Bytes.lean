/-
L0: byte-level primitives shared by the serializer (C01/C12/C13) and the frame
layer (C04/C08).  Models `struct.pack('!i')`, `struct.pack('!d')` (as a raw 64-bit
pattern), Python's `str(int)` / `int(bytes)` grammar, UTF-8 and latin-1.

No Mathlib import: this file is linked into the native driver.
-/
namespace ExecnetVerif

abbrev Bytes := List UInt8

/-- 2^31, kept behind a `def` so that `simp` never normalises with the literal. -/
def two31 : Nat := 2147483648
def two32 : Nat := 4294967296
def two64 : Nat := 18446744073709551616

theorem two31_eq : two31 = 2147483648 := rfl
theorem two32_eq : two32 = 4294967296 := rfl
theorem two64_eq : two64 = 18446744073709551616 := rfl

/-- big-endian 4 bytes of `n % 2^32` (struct.pack('!I', n)) -/
def be4 (n : Nat) : Bytes :=
  [UInt8.ofNat (n / 16777216 % 256), UInt8.ofNat (n / 65536 % 256),
   UInt8.ofNat (n / 256 % 256), UInt8.ofNat (n % 256)]

/-- value of 4 big-endian bytes -/
def val4 (a b c d : UInt8) : Nat :=
  a.toNat * 16777216 + b.toNat * 65536 + c.toNat * 256 + d.toNat

/-- two's complement image of a signed 32-bit integer -/
def toU32 (i : Int) : Nat := (i % (4294967296 : Int)).toNat

/-- signed reading of an unsigned 32-bit number (struct.unpack('!i')) -/
def ofU32 (n : Nat) : Int := if n < 2147483648 then (n : Int) else (n : Int) - 4294967296

def inI32 (i : Int) : Prop := -2147483648 ≤ i ∧ i ≤ 2147483647
instance (i : Int) : Decidable (inI32 i) := by unfold inI32; infer_instance

/-- struct.pack('!i', i) for i in range -/
def packI32 (i : Int) : Bytes := be4 (toU32 i)

/-- big-endian 8 bytes of `n % 2^64` -/
def be8 (n : Nat) : Bytes := be4 (n / 4294967296 % 4294967296) ++ be4 (n % 4294967296)

/-- exact-length read: the first `n` bytes and the rest, or `none` when the input is short -/
def readN (n : Nat) (bs : Bytes) : Option (Bytes × Bytes) :=
  if n ≤ bs.length then some (bs.take n, bs.drop n) else none

def rd4 (bs : Bytes) : Option (Nat × Bytes) :=
  match bs with
  | a :: b :: c :: d :: rest => some (val4 a b c d, rest)
  | _ => none

def rd8 (bs : Bytes) : Option (Nat × Bytes) :=
  match rd4 bs with
  | some (hi, r1) =>
    match rd4 r1 with
    | some (lo, r2) => some (hi * 4294967296 + lo, r2)
    | none => none
  | none => none

/-! the exact-length readers take their bytes off the front: the rest is no longer than the input, and
bytes appended to the input are appended to the rest -/

theorem rd4_len {bs : Bytes} {n r} (h : rd4 bs = some (n, r)) : r.length ≤ bs.length := by
  match bs, h with
  | _ :: _ :: _ :: _ :: rest, h => cases h; simp only [List.length_cons]; omega

theorem rd4_append {bs : Bytes} {n r} (h : rd4 bs = some (n, r)) (t : Bytes) :
    rd4 (bs ++ t) = some (n, r ++ t) := by
  match bs, h with
  | _ :: _ :: _ :: _ :: rest, h => cases h; rfl

theorem rd8_len {bs : Bytes} {n r} (h : rd8 bs = some (n, r)) : r.length ≤ bs.length := by
  unfold rd8 at h
  split at h
  · rename_i h1
    split at h
    · rename_i h2
      cases h
      exact Nat.le_trans (rd4_len h2) (rd4_len h1)
    · cases h
  · cases h

theorem rd8_append {bs : Bytes} {n r} (h : rd8 bs = some (n, r)) (t : Bytes) :
    rd8 (bs ++ t) = some (n, r ++ t) := by
  unfold rd8 at h ⊢
  split at h
  · rename_i h1
    split at h
    · rename_i h2
      cases h
      simp only [rd4_append h1, rd4_append h2]
    · cases h
  · cases h

theorem readN_len {n : Nat} {bs b r : Bytes} (h : readN n bs = some (b, r)) : r.length ≤ bs.length := by
  unfold readN at h
  split at h
  · cases h; simp
  · cases h

theorem readN_append {n : Nat} {bs b r : Bytes} (h : readN n bs = some (b, r)) (t : Bytes) :
    readN n (bs ++ t) = some (b, r ++ t) := by
  unfold readN at h ⊢
  split at h
  · rename_i hn
    cases h
    rw [if_pos (by rw [List.length_append]; omega), List.take_append_of_le_length hn,
      List.drop_append_of_le_length hn]
  · cases h

/-! ### decimal text of integers (`str(i)`), and Python's `int(bytes)` -/

def digitByte (d : Nat) : UInt8 := UInt8.ofNat (48 + d)

/-- decimal digits of a natural number, most significant first, as ASCII -/
def natDigits (n : Nat) : Bytes :=
  if h : n < 10 then [digitByte n] else natDigits (n / 10) ++ [digitByte (n % 10)]
termination_by n
decreasing_by omega

/-- `str(i).encode('ascii')` -/
def intText (i : Int) : Bytes :=
  if i < 0 then 45 :: natDigits (-i).toNat else natDigits i.toNat

def isDigit (b : UInt8) : Bool := 48 ≤ b.toNat && b.toNat ≤ 57
/-- `Py_ISSPACE`: space, \t \n \v \f \r -/
def isSpace (b : UInt8) : Bool := b.toNat = 32 || (9 ≤ b.toNat && b.toNat ≤ 13)

/-- digits with single underscores allowed *between* digits; returns value and the digit count.
`prevDigit` says whether the previous character was a digit (an underscore is legal only then
and must be followed by a digit). -/
def parseDigits : Bytes → (acc : Nat) → (ndig : Nat) → (prevDigit : Bool) → Option (Nat × Nat × Bytes)
  | [], acc, nd, prev => if prev then some (acc, nd, []) else none
  | b :: rest, acc, nd, prev =>
    if isDigit b then parseDigits rest (acc * 10 + (b.toNat - 48)) (nd + 1) true
    else if b.toNat = 95 then
      (if prev then
        match rest with
        | c :: _ => if isDigit c then parseDigits rest acc nd false else none
        | [] => none
      else none)
    else if prev then some (acc, nd, b :: rest) else none

def dropSpaces : Bytes → Bytes
  | [] => []
  | b :: rest => if isSpace b then dropSpaces rest else b :: rest

/-- CPython's limit on decimal digits for int<->str conversion (`sys.get_int_max_str_digits()`);
the correspondence harness asserts the running interpreter uses this default. -/
def maxStrDigits : Nat := 4300

/-- digits (with single underscores), optional trailing whitespace, digit-count limit -/
def parseUnsigned (s : Bytes) : Option Nat :=
  match s with
  | [] => none
  | c :: _ =>
    if isDigit c then
      match parseDigits s 0 0 false with
      | some (v, nd, rest) =>
        if dropSpaces rest = [] then (if nd > maxStrDigits then none else some v) else none
      | none => none
    else none

/-- Python `int(b)` for a bytes object, base 10: optional surrounding whitespace, optional sign,
digits with single underscores.  `none` = ValueError. -/
def parseInt (bs : Bytes) : Option Int :=
  match dropSpaces bs with
  | 45 :: r => (parseUnsigned r).map fun v => -(v : Int)
  | 43 :: r => (parseUnsigned r).map fun v => (v : Int)
  | r => (parseUnsigned r).map fun v => (v : Int)

/-- number of decimal digits of |i| -/
def numDigits (i : Int) : Nat := (natDigits i.natAbs).length

/-! ### strings -/

def utf8Encode (s : String) : Bytes := s.toUTF8.data.toList
def utf8Decode (bs : Bytes) : Option String := String.fromUTF8? (ByteArray.mk bs.toArray)

/-- latin-1 decoding never fails: each byte is the code point -/
def latin1Decode (bs : Bytes) : String := String.ofList (bs.map fun b => Char.ofNat b.toNat)

/-! ### hex rendering for the driver's line protocol -/

def hexDigit (n : Nat) : Char :=
  if n < 10 then Char.ofNat (48 + n) else Char.ofNat (87 + n)

def toHex (bs : Bytes) : String :=
  if bs.isEmpty then "-" else
  String.ofList (bs.flatMap fun b => [hexDigit (b.toNat / 16), hexDigit (b.toNat % 16)])

def hexVal (c : Char) : Option Nat :=
  if '0' ≤ c ∧ c ≤ '9' then some (c.toNat - 48)
  else if 'a' ≤ c ∧ c ≤ 'f' then some (c.toNat - 87)
  else if 'A' ≤ c ∧ c ≤ 'F' then some (c.toNat - 55)
  else none

def ofHexChars : List Char → Option Bytes
  | [] => some []
  | a :: b :: rest => do
    let x ← hexVal a
    let y ← hexVal b
    let r ← ofHexChars rest
    pure (UInt8.ofNat (x * 16 + y) :: r)
  | _ => none

def ofHex (s : String) : Option Bytes :=
  if s = "-" then some [] else ofHexChars s.toList

end ExecnetVerif
