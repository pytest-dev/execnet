/-
L9 (C15) — what execnet ships to the other side, as tables, and the closure conditions over them.

The *tables* are not written here: `Generated/Shipped.lean` is regenerated from the source on every run
(`translator/extract_shipped.py`).  This file only fixes their shape, says what "self-contained" means
for such a table, and models the bootstrap path selection of `gateway_bootstrap.bootstrap` /
`Group.makegateway` as a function of the truthiness of six spec attributes.
-/
namespace ExecnetVerif.Bootstrap

/-- one `import a.b` / `from m import x, y` statement on the executed path of a shipped text -/
structure Import where
  /-- dotted module as written (`.x` for relative imports) -/
  module : String
  /-- first component (`execnet` for relative imports) -/
  root : String
  relative : Bool
  /-- names the statement binds -/
  bound : List String
  /-- names requested by `from m import …` (empty for `import m`) -/
  names : List String
  /-- qualified name of the enclosing def/class, "" at module level -/
  scope : String
  funcLevel : Bool
  /-- directly inside `try:` with a handler for ImportError -/
  guarded : Bool
  /-- inside such a handler -/
  fallback : Bool
  /-- execmodel backends whose class (only `get_execmodel` instantiates it) holds this import; [] = unconditional -/
  backends : List String
deriving Repr, DecidableEq

/-- what happens to the names of a guarded import when the import fails -/
structure Fallback where
  module : String
  names : List String
  /-- re-imported by `from __main__ import n` -/
  viaMain : List String
  /-- roots of other modules they are re-imported from -/
  viaOther : List String
  /-- plainly assigned in the handler (`fcntl = None`) -/
  assigned : List String
  /-- bound nowhere in the handler although used outside the try/else -/
  unprovided : List String
deriving Repr, DecidableEq

/-- one shipped text -/
structure SUnit where
  name : String
  imports : List Import
  fallbacks : List Fallback
  /-- (line, what, why) left out of `imports`: TYPE_CHECKING blocks and branches of another `__name__` -/
  excluded : List (Nat × String × String)
  /-- names bound at module level on the executed path -/
  defined : List String
  /-- global names read somewhere in the text and not bound by it -/
  freeGlobals : List String
deriving Repr

/-- one namespace: the units executed in it, in order -/
structure Sequence where
  name : String
  /-- the namespace is the `__main__` module of the process -/
  inMain : Bool
  /-- names the namespace holds before the first unit runs -/
  injected : List String
  /-- names it holds only on some paths (not relied upon) -/
  maybeInjected : List String
  units : List SUnit
deriving Repr

/-- the execmodels the property quantifies over ("execmodels available in the stdlib") -/
def stdlibExecmodels : List String := ["thread", "main_thread_only"]

/-- an import that runs for some stdlib execmodel (unconditional ones always do) -/
def Import.relevant (i : Import) : Prop := i.backends = [] ∨ ∃ b ∈ i.backends, b ∈ stdlibExecmodels

instance (i : Import) : Decidable i.relevant := by unfold Import.relevant; infer_instance

/-- names `from __main__ import n` finds on a worker bootstrapped through sequence `kind` -/
def mainProvides (seqs : List Sequence) (kind : String) : List String :=
  (seqs.filter fun q => q.name == kind && q.inMain).flatMap fun q => q.injected ++ q.units.flatMap (·.defined)

def FallbackOk (stdlib main : List String) (f : Fallback) : Prop :=
  f.unprovided = [] ∧ (∀ n ∈ f.viaMain, n ∈ main) ∧ ∀ m ∈ f.viaOther, m ∈ stdlib

instance (stdlib main : List String) (f : Fallback) : Decidable (FallbackOk stdlib main f) := by
  unfold FallbackOk; infer_instance

/-- the import needs nothing but the standard library and what earlier shipped text put into `__main__` -/
def ImportOk (stdlib main : List String) (u : SUnit) (i : Import) : Prop :=
  (i.relative = false ∧ i.root ∈ stdlib)
  ∨ (i.guarded = true ∧ ∃ f ∈ u.fallbacks, f.module = i.module ∧ f.names = i.bound ∧ FallbackOk stdlib main f)
  ∨ (i.fallback = true ∧ i.module = "__main__" ∧ ∀ n ∈ i.names, n ∈ main)

instance (stdlib main : List String) (u : SUnit) (i : Import) : Decidable (ImportOk stdlib main u i) := by
  unfold ImportOk; infer_instance

/-- every free global of `u` is bound by `u` itself, a builtin, or provided by `before` -/
def NamesOk (builtins before : List String) (u : SUnit) : Prop :=
  ∀ n ∈ u.freeGlobals, n ∈ u.defined ∨ n ∈ builtins ∨ n ∈ before

instance (builtins before : List String) (u : SUnit) : Decidable (NamesOk builtins before u) := by
  unfold NamesOk; infer_instance

/-- what the namespace of `q` holds when its `k`-th unit starts -/
def Sequence.before (q : Sequence) (k : Nat) : List String :=
  q.injected ++ (q.units.take k).flatMap (·.defined)

def UnitClosed (stdlib builtins main before : List String) (u : SUnit) : Prop :=
  (∀ i ∈ u.imports, i.relevant → ImportOk stdlib main u i) ∧ NamesOk builtins before u

instance (stdlib builtins main before : List String) (u : SUnit) :
    Decidable (UnitClosed stdlib builtins main before u) := by unfold UnitClosed; infer_instance

/-- first witness against closure, for the driver (same order as the tables) -/
def firstOpen (stdlib builtins main before : List String) (u : SUnit) : Option String :=
  match u.imports.find? fun i => decide i.relevant && !decide (ImportOk stdlib main u i) with
  | some i => some s!"import:{i.module}"
  | none =>
    match u.freeGlobals.find? fun n => !(u.defined.contains n || builtins.contains n || before.contains n) with
    | some n => some s!"name:{n}"
    | none => none

/-! ### path selection -/

inductive Cond
  | flag (name : String)
  | or (a b : Cond)
  | and (a b : Cond)
  | not (a : Cond)
deriving Repr, DecidableEq

inductive Sel
  | ite (c : Cond) (t e : Sel)
  | call (f : String)
  | raise (exc : String)
  | unknown (what : String)
deriving Repr, DecidableEq

/-- truthiness of the six spec attributes the selectors look at -/
structure Spec where
  popen : Bool
  via : Bool
  python : Bool
  ssh : Bool
  vagrant_ssh : Bool
  socket : Bool
deriving Repr, DecidableEq

def Spec.flag (s : Spec) : String → Option Bool
  | "popen" => some s.popen
  | "via" => some s.via
  | "python" => some s.python
  | "ssh" => some s.ssh
  | "vagrant_ssh" => some s.vagrant_ssh
  | "socket" => some s.socket
  | _ => none

def Cond.eval (s : Spec) : Cond → Option Bool
  | .flag n => s.flag n
  | .or a b => do let x ← a.eval s; let y ← b.eval s; pure (x || y)
  | .and a b => do let x ← a.eval s; let y ← b.eval s; pure (x && y)
  | .not a => do let x ← a.eval s; pure (!x)

/-- what the selector does for `s`: `.call f`, `.raise e`, or `.unknown` when the table has a part the
translator did not understand -/
def Sel.eval (s : Spec) : Sel → Sel
  | .ite c t e => match c.eval s with
    | some true => t.eval s
    | some false => e.eval s
    | none => .unknown "flag"
  | x => x

inductive Kind | «import» | exec | socket | error
deriving Repr, DecidableEq

/-- `gateway_bootstrap.bootstrap`, hand-modelled -/
def bootstrapKind (s : Spec) : Kind :=
  if s.popen then (if s.via || s.python then .exec else .import)
  else if s.ssh || s.vagrant_ssh then .exec
  else if s.socket then .socket
  else .error

def Kind.outcome : Kind → Sel
  | .import => .call "bootstrap_import"
  | .exec => .call "bootstrap_exec"
  | .socket => .call "bootstrap_socket"
  | .error => .raise "ValueError"

inductive IOKind | proxy | pipe | socket | assertion | error
deriving Repr, DecidableEq

/-- the IO object `Group.makegateway` creates, hand-modelled (`via=` together with a socket spec trips
an `assert`) -/
def ioKind (s : Spec) : IOKind :=
  if s.via then (if s.socket then .assertion else .proxy)
  else if s.popen || s.ssh || s.vagrant_ssh then .pipe
  else if s.socket then .socket
  else .error

def IOKind.outcome : IOKind → Sel
  | .proxy => .call "gateway_io.ProxyIO"
  | .pipe => .call "gateway_io.create_io"
  | .socket => .call "gateway_socket.create_io"
  | .assertion => .raise "AssertionError"
  | .error => .raise "ValueError"

/-- last line of a bootstrap text -/
structure Tail where
  kind : String
  callee : String
  /-- first argument with `io` resolved through the preceding lines -/
  io : String
  idTemplate : String
  /-- right-hand side of `execmodel = …` -/
  execmodel : String
  /-- module whose source text is sent (exec/socket) -/
  shippedModule : String
  /-- module the names are imported from (import bootstrap) -/
  importedFrom : String
deriving Repr, DecidableEq

end ExecnetVerif.Bootstrap
