/-
A well-founded progress measure for the WorkerPool model: every step that is not the start of a new client call
strictly decreases `measure N` (N bounds the client-thread and task ids in use), so between two client calls the
pool can only take finitely many steps.  `measure_us` / `measure_phase` / `measure_pp` are `measure_lt` for a step that
moves a client and at most one task / one task and `pp` / `pp` only.
-/
import ExecnetVerif.Proofs.PoolReach
namespace ExecnetVerif.Pool

/- The weights are chosen so that every step other than the start of a call lowers the sum; the steps that move
two agents bind them: accepting, 17 > 3 + 13; the hand-over, 3 + 13 > 2 + 12; reading the mailbox, 12 + 2 > 5 + 6;
the removal by the primary thread, 1 + 6 > 0 + 5. -/
def wT : TPhase → Nat
  | .unused => 0 | .done => 0 | .removing => 1 | .resReady => 2 | .ended => 3 | .body => 4
  | .created => 5 | .inHand => 5 | .inMbox => 12 | .pending => 13

def wP : PPhase → Nat
  | .gone => 0 | .left => 1 | .readMbox => 2 | .waitReady => 3 | .chk _ => 4 | .chkAcq _ => 5 | .run _ => 6

def wU : UPhase → Nat
  | .idle => 0 | .spawnRet _ => 1 | .refusedRet => 1 | .spawnRel _ => 2 | .spawnWait _ _ => 3 | .spawnHold _ => 17
  | .shutRet => 1 | .shutHold => 2 | .waRet _ => 1 | .waWait _ => 2 | .waHold _ => 3 | .getRet _ _ => 1 | .getWait _ _ => 2

def sumTo (f : Nat → Nat) : Nat → Nat
  | 0 => 0
  | n + 1 => sumTo f n + f n

/-- remaining work of all calls in flight, all accepted tasks and the primary thread -/
def measure (N : Nat) (s : State) : Nat :=
  sumTo (fun i => wU (s.us i)) N + sumTo (fun t => wT (s.phase t)) N + wP s.pp

/-- `N` bounds the ids in use -/
structure Bounded (N : Nat) (s : State) : Prop where
  users : ∀ i, N ≤ i → s.us i = .idle
  tasks : ∀ t, N ≤ t → s.phase t = .unused
  -- the task a `spawnHold` names is still `unused`, so `tasks` does not see it, and the check will make it used
  fresh : ∀ i t, s.us i = .spawnHold t → t < N

theorem sumTo_move {f g : Nat → Nat} {i : Nat} (h : ∀ j, j ≠ i → f j = g j) (N : Nat) :
    sumTo f N + (if i < N then g i else 0) = sumTo g N + (if i < N then f i else 0) := by
  induction N with
  | zero => rfl
  | succ n ih =>
    simp only [sumTo]
    by_cases hin : i = n
    · subst hin
      simp only [Nat.lt_irrefl, Nat.lt_succ_self, if_true, if_false] at ih ⊢
      omega
    · rw [h n (Ne.symm hin)]
      split at ih <;> split <;> omega

section
variable {N : Nat} {s s' : State}

theorem Bounded.lt_of_used (hb : Bounded N s) {t : TaskId} (h : s.phase t ≠ .unused) : t < N :=
  Nat.lt_of_not_le fun h1 => h (hb.tasks t h1)

theorem Bounded.lt_of_busy (hb : Bounded N s) {i : Uid} (h : s.us i ≠ .idle) : i < N :=
  Nat.lt_of_not_le fun h1 => h (hb.users i h1)

theorem Bounded.step (hb : Bounded N s) {i : Uid} {t : TaskId} (hus : ∀ j, j ≠ i → s'.us j = s.us j)
    (hi : s'.us i = s.us i ∨ (i < N ∧ ∀ u, s'.us i = .spawnHold u → u < N))
    (hph : ∀ u, u ≠ t → s'.phase u = s.phase u) (ht : s'.phase t = s.phase t ∨ t < N) : Bounded N s' := by
  refine ⟨fun j hj => ?_, fun u hu => ?_, fun j u hj => ?_⟩
  · by_cases hji : j = i
    · subst hji
      rcases hi with hi | hi
      · rw [hi]; exact hb.users j hj
      · exact absurd hi.1 (Nat.not_lt.2 hj)
    · rw [hus j hji]; exact hb.users j hj
  · by_cases hut : u = t
    · subst hut
      rcases ht with ht | ht
      · rw [ht]; exact hb.tasks u hu
      · exact absurd ht (Nat.not_lt.2 hu)
    · rw [hph u hut]; exact hb.tasks u hu
  · by_cases hji : j = i
    · subst hji
      rcases hi with hi | hi
      · exact hb.fresh j u (hi ▸ hj)
      · exact hi.2 u hj
    · exact hb.fresh j u (hus j hji ▸ hj)

theorem Bounded.setUser (hb : Bounded N s) {i : Uid} {v : UPhase} (hi : i < N) (hus : s'.us = upd s.us i v)
    (hph : s'.phase = s.phase) (hv : ∀ u, v = .spawnHold u → u < N) : Bounded N s' :=
  hb.step (i := i) (t := 0) (fun j hj => by rw [hus, upd_of_ne _ _ hj])
    (.inr ⟨hi, fun u hu => hv u (by rwa [hus, upd_self] at hu)⟩) (fun _ _ => by rw [hph]) (.inl (by rw [hph]))

theorem measure_lt (hb : Bounded N s) {i : Uid} {t : TaskId} (hus : ∀ j, j ≠ i → s'.us j = s.us j)
    (hi : s'.us i = s.us i ∨ (i < N ∧ ∀ u, s'.us i = .spawnHold u → u < N))
    (hph : ∀ u, u ≠ t → s'.phase u = s.phase u) (ht : s'.phase t = s.phase t ∨ t < N)
    (hlt : wU (s'.us i) + wT (s'.phase t) + wP s'.pp < wU (s.us i) + wT (s.phase t) + wP s.pp) :
    measure N s' < measure N s ∧ Bounded N s' := by
  refine ⟨?_, hb.step hus hi hph ht⟩
  have hU := sumTo_move (fun j hj => congrArg wU (hus j hj)) N
  have hT := sumTo_move (fun u hu => congrArg wT (hph u hu)) N
  -- `hU`, `hT` reduce the two sums to the weights at `i` and `t`, which `hlt` compares; an index at or above the
  -- bound keeps its state (`hi`, `ht`), hence its weight
  simp only [measure]
  grind

variable {i : Uid} {v : UPhase} {t : TaskId} {q : TPhase}

/-- a step that writes no phase: any `t` (`(t := 0)`) and `.inl ⟨rfl, rfl⟩` -/
theorem measure_us (hb : Bounded N s) (hne : s.us i ≠ .idle) (hus : s'.us = upd s.us i v)
    (hv : ∀ u, v ≠ .spawnHold u)
    (hph : s'.phase = s.phase ∧ q = s.phase t ∨ s'.phase = upd s.phase t q ∧ t < N) (hpp : s'.pp = s.pp)
    (hlt : wU v + wT q < wU (s.us i) + wT (s.phase t)) : measure N s' < measure N s ∧ Bounded N s' := by
  have hvi : s'.us i = v := by rw [hus, upd_self]
  refine measure_lt hb (i := i) (t := t) (fun j hj => by rw [hus, upd_of_ne _ _ hj])
    (.inr ⟨hb.lt_of_busy hne, fun u hu => absurd (hvi ▸ hu) (hv u)⟩) ?_ ?_ ?_
  all_goals rcases hph with ⟨hph, rfl⟩ | ⟨hph, ht⟩ <;> rw [hph]
  · exact fun _ _ => rfl
  · exact fun u hu => upd_of_ne _ _ hu
  · exact .inl rfl
  · exact .inr ht
  · rw [hvi, hpp]; omega
  · rw [hvi, hpp, upd_self]; omega

theorem measure_phase (hb : Bounded N s) (hne : s.phase t ≠ .unused) (hus : s'.us = s.us)
    (hph : s'.phase = upd s.phase t q) (hlt : wT q + wP s'.pp < wT (s.phase t) + wP s.pp) :
    measure N s' < measure N s ∧ Bounded N s' :=
  measure_lt hb (i := 0) (t := t) (fun _ _ => by rw [hus]) (.inl (by rw [hus]))
    (fun u hu => by rw [hph, upd_of_ne _ _ hu]) (.inr (hb.lt_of_used hne)) (by rw [hus, hph, upd_self]; omega)

theorem measure_pp (hb : Bounded N s) (hus : s'.us = s.us) (hph : s'.phase = s.phase)
    (hlt : wP s'.pp < wP s.pp) : measure N s' < measure N s ∧ Bounded N s' :=
  measure_lt hb (i := 0) (t := 0) (fun _ _ => by rw [hus]) (.inl (by rw [hus])) (fun _ _ => by rw [hph])
    (.inl (by rw [hph])) (by rw [hus, hph]; omega)

theorem measure_user {c : Config} {act : Action} (inv : Inv c s) (hb : Bounded N s) (hcall : act.isCall = false)
    (hs : userStep c s i act = some s') : measure N s' < measure N s ∧ Bounded N s' := by
  cases act <;> simp only [userStep] at hs
  case spawnAcq | shutAcq | waAcq | getCall => cases hcall
  case spawnCheck =>
    split at hs
    next t hi =>
      have hne : s.us i ≠ .idle := by simp [hi]
      have hp := inv.shold i t hi
      have hmv {q} : upd s.phase t q = upd s.phase t q ∧ t < N := ⟨rfl, hb.fresh i t hi⟩
      split at hs
      · cases hs; exact measure_us (t := t) hb hne rfl nofun (.inl ⟨rfl, rfl⟩) rfl (by simp [hi, wU])
      repeat' split at hs
      all_goals cases hs; exact measure_us hb hne rfl nofun (.inr hmv) rfl (by simp [hi, hp, wU, wT])
    · cases hs
  case spawnWaitfin =>
    split at hs
    next t m hi =>
      have hp := (inv.swait i t m hi).1
      split at hs <;> cases hs
      exact measure_us hb (by simp [hi]) rfl nofun (.inr ⟨rfl, hb.lt_of_used (by simp [hp])⟩) rfl
        (by simp [hi, hp, wU, wT])
    · cases hs
  case spawnRelease | spawnReturn | refusedReturn | shutDo | shutReturn | waCheck | waWake | waTimeout | waReturn
      | getOk | getTimeout | getReturn =>
    -- the caller's own weight drops, nothing else moves
    repeat' split at hs
    all_goals cases hs
    all_goals exact measure_us (t := 0) hb (by simp [*]) rfl nofun (.inl ⟨rfl, rfl⟩) rfl (by simp [*, wU])
  all_goals cases hs

theorem measure_task {a : Agent} {act : Action} (hb : Bounded N s) (hs : taskStep s a act = some s') :
    measure N s' < measure N s ∧ Bounded N s' := by
  cases act <;> simp only [taskStep] at hs
  case tBegin t | tEnd t | tSetReady t | tRemAcq t =>
    split at hs <;> cases hs
    next hc => exact measure_phase hb (by grind) rfl rfl (by grind [wT])
  case tRemove t =>
    split at hs
    next hc =>
      have hpp : a = .primary → s.pp = .run t := fun ha => by simpa [ha, canExec] using hc.1
      split at hs <;> cases hs
      all_goals
        refine measure_phase hb (by simp [hc.2]) rfl rfl ?_
        simp only [hc.2, wT]
        split <;> simp [*, wP]
    · cases hs
  all_goals cases hs

theorem measure_prim {c : Config} {act : Action} (hc : c.old = false) (inv : Inv c s) (hb : Bounded N s)
    (hs : primStep c s act = some s') : measure N s' < measure N s ∧ Bounded N s' := by
  cases act <;> simp only [primStep, hc, Bool.false_eq_true, ↓reduceIte] at hs
  case pRead =>
    split at hs
    next hp =>
      split at hs <;> cases hs
      · exact measure_pp hb rfl rfl (by simp [hp, wP])
      next t hm =>
        have hin := inv.rdFresh (.inl hp) (inv.rdReady hp) t hm
        exact measure_phase hb (by simp [hin]) rfl rfl (by simp [hin, hp, wT, wP])
    · cases hs
  case pWait | pChkAcq | pCheck | pLeave =>
    repeat' split at hs
    all_goals cases hs
    all_goals exact measure_pp hb rfl rfl (by simp [*, wP])
  all_goals cases hs

end

theorem measure_step {c : Config} {s s' : State} {a : Agent × Action} {N : Nat} (hc : c.old = false) (inv : Inv c s)
    (hb : Bounded N s) (hcall : a.2.isCall = false) (hs : step c s a = some s') :
    measure N s' < measure N s ∧ Bounded N s' := by
  obtain ⟨ag, act⟩ := a
  cases ag with
  | user i => exact measure_user inv hb hcall hs
  | worker t => exact measure_task hb hs
  | primary =>
    simp only [step] at hs
    split at hs
    · exact measure_prim hc inv hb hs
    · exact measure_task hb hs

theorem bounded_init (c : Config) (N : Nat) : Bounded N (init c) :=
  ⟨fun _ _ => rfl, fun _ _ => rfl, fun i t h => by simp [init] at h⟩

theorem bounded_call {c : Config} {s s' : State} {i : Uid} {act : Action} {N : Nat} (hb : Bounded N s) (hi : i < N)
    (ht : ∀ t, act = .spawnAcq t → t < N) (hcall : act.isCall = true) (hs : step c s (.user i, act) = some s') :
    Bounded N s' := by
  cases act <;> simp only [step, userStep] at hs
  case spawnAcq t =>
    split at hs <;> cases hs
    exact hb.setUser hi rfl rfl fun u hu => ht u (by cases hu; rfl)
  case shutAcq | waAcq | getCall =>
    split at hs <;> cases hs
    exact hb.setUser hi rfl rfl nofun
  all_goals cases hcall

theorem measure_run {c : Config} {N : Nat} (hc : c.old = false) (l : List (Agent × Action)) :
    ∀ {s s' : State}, Reachable c s → Bounded N s → (∀ a, a ∈ l → a.2.isCall = false) →
      runSteps c s l = some s' → l.length + measure N s' ≤ measure N s := by
  induction l with
  | nil => intro s s' _ _ _ hr; simp [runSteps] at hr; subst hr; simp
  | cons a rest ih =>
    intro s s' hreach hb hall hr
    simp only [runSteps] at hr
    split at hr
    · rename_i s1 hs1
      have h1 := measure_step hc (inv_reachable hc hreach) hb (hall a (by simp)) hs1
      have h2 := ih (Reachable.step hreach hs1) h1.2 (fun b hb' => hall b (by simp [hb'])) hr
      simp only [List.length_cons]
      omega
    · cases hr

end ExecnetVerif.Pool
