/-
The inductive invariant of the thread-level WorkerPool model (`Model/Pool.lean`, fixed protocol), with the facts
about the model's functions and the phase classifiers that follow from the definitions alone, and the first
consequences of `Inv`.
-/
import ExecnetVerif.Model.Pool
namespace ExecnetVerif.Pool

/-- the task is in `_running` -/
def live : TPhase → Bool
  | .pending | .inMbox | .inHand | .created | .body | .ended | .resReady | .removing => true
  | _ => false

/-- the body has begun -/
def begun : TPhase → Bool
  | .body | .ended | .resReady | .removing | .done => true
  | _ => false

/-- phases in which the primary thread is inside `_perform_spawn` for the task -/
def primExec : TPhase → Bool
  | .inHand | .body | .ended | .resReady | .removing => true
  | _ => false

/-- client-thread states that hold `_running_lock` -/
def holdsLock : UPhase → Bool
  | .spawnHold _ | .spawnWait _ _ | .spawnRel _ | .shutHold | .waHold _ => true
  | _ => false

/-- client-thread states inside `waitall` after the lock was taken -/
def inWa : UPhase → Bool
  | .waHold _ | .waWait _ | .waRet _ => true
  | _ => false

structure Inv (c : Config) (s : State) : Prop where
  -- ghost lists vs phases
  acc : ∀ t, t ∈ s.accepted ↔ s.phase t ≠ .unused
  run : ∀ t, t ∈ s.running ↔ live (s.phase t) = true
  runND : s.running.Nodup
  sta : ∀ t, t ∈ s.started ↔ begun (s.phase t) = true
  staND : s.started.Nodup
  fin : ∀ t, t ∈ s.finished ↔ bodyEnded (s.phase t) = true
  -- the lock
  lockU : ∀ i, s.lock = some (.user i) ↔ holdsLock (s.us i) = true
  lockW : ∀ t, s.lock = some (.worker t) ↔ (s.phase t = .removing ∧ s.prim t = false)
  lockP1 : ∀ t, s.pp = .chk t → s.lock = some .primary
  lockP2 : ∀ t, s.pp = .run t → s.phase t = .removing → s.lock = some .primary
  lockP3 : s.lock = some .primary → s.pp ≠ .waitReady ∧ s.pp ≠ .readMbox ∧ s.pp ≠ .left ∧ s.pp ≠ .gone ∧
    ∀ t, s.pp ≠ .chkAcq t ∧ (s.pp = .run t → s.phase t = .removing)
  -- executors
  primRun : ∀ t, s.pp = .run t ↔ (s.prim t = true ∧ primExec (s.phase t) = true)
  primChk : ∀ t, (s.pp = .chkAcq t ∨ s.pp = .chk t) → s.phase t = .done
  primOf : ∀ t, (s.phase t = .pending ∨ s.phase t = .inMbox ∨ s.phase t = .inHand) → s.prim t = true
  workOf : ∀ t, s.phase t = .created → s.prim t = false
  -- mailbox
  noPrim : c.primary = false → s.pp = .gone ∧ s.ready = false
  mbAcc : ∀ t, s.mbox = some t → s.phase t ≠ .unused
  inMb : ∀ t, s.phase t = .inMbox → s.mbox = some t ∧ s.ready = true
  rdFresh : (s.pp = .readMbox ∨ s.pp = .waitReady) → s.ready = true → ∀ t, s.mbox = some t → s.phase t = .inMbox
  rdReady : s.pp = .readMbox → s.ready = true
  busy : ∀ t, (s.pp = .run t ∨ s.pp = .chkAcq t ∨ s.pp = .chk t) →
    s.ready = true ∧ s.mbox ≠ none ∧ ∀ u, s.mbox = some u → u ≠ t → s.phase u = .inMbox
  notReady : s.ready = false → c.primary = true → s.pp = .waitReady ∧ s.shut = false
  mbNone : s.mbox = none → s.ready = true → s.shut = true
  leftInv : (s.pp = .left ∨ s.pp = .gone) →
    (∀ t, s.phase t ≠ .inMbox ∧ s.phase t ≠ .pending) ∧ (c.primary = true → s.shut = true ∧ s.ready = true)
  -- the spawner blocked in `waitfinish()` while holding the lock (main_thread_only)
  swait : ∀ i t m, s.us i = .spawnWait t m → s.phase t = .pending ∧ s.mbox = some m ∧ s.ready = true ∧ m ≠ t
  pend : ∀ t, s.phase t = .pending → ∃ i m, s.us i = .spawnWait t m
  swaitC : ∀ i t m, s.us i = .spawnWait t m → c.primary = true ∧ c.mto = true
  shold : ∀ i t, s.us i = .spawnHold t → s.phase t = .unused
  getR : ∀ i t, s.us i = .getRet t true → bodyEnded (s.phase t) = true
  -- waitall callers
  wlost : ∀ i b, s.us i = .waWait b → s.wev i = false → s.wreg i = true ∧ s.running ≠ []
  wsn : ∀ i, inWa (s.us i) = true → ∀ t, t ∈ s.wsnap i → s.phase t ≠ .unused
  wtrueW : ∀ i b, s.us i = .waWait b → s.wev i = true → ∀ t, t ∈ s.wsnap i → s.phase t = .done
  wtrueR : ∀ i, s.us i = .waRet true → ∀ t, t ∈ s.wsnap i → s.phase t = .done
  wsh : ∀ i, inWa (s.us i) = true → s.wshut i = true → s.shut = true ∧ ∀ t, s.phase t ≠ .unused → t ∈ s.wsnap i
  -- the gateway's submission protocol
  gateH : c.gated = true → ∀ i t, s.us i = .spawnHold t → ∀ u, s.phase u ≠ .unused → bodyEnded (s.phase u) = true
  gateW : c.gated = true → ∀ i t m, s.us i = .spawnWait t m → bodyEnded (s.phase m) = true

theorem inv_init (c : Config) : Inv c (init c) := by
  constructor <;> simp [init, live, begun, bodyEnded, holdsLock, primExec, inWa]
  all_goals (cases c.primary <;> simp)

@[grind =] theorem upd_apply {α β : Type} [DecidableEq α] (f : α → β) (k : α) (v : β) (u : α) :
    upd f k v u = if u = k then v else f u := rfl

theorem upd_self {α β : Type} [DecidableEq α] (f : α → β) (k : α) (v : β) : upd f k v k = v := if_pos rfl

theorem upd_of_ne {α β : Type} [DecidableEq α] (f : α → β) {k u : α} (v : β) (h : u ≠ k) : upd f k v u = f u :=
  if_neg h

theorem upd_forall {α β : Type} [DecidableEq α] {f : α → β} {k : α} {v : β} {P : α → β → Prop}
    (hk : P k v) (hf : ∀ u, u ≠ k → P u (f u)) (u : α) : P u (upd f k v u) := by
  unfold upd; split
  · next e => exact e ▸ hk
  · next e => exact hf u e

theorem gateOk_spec {c : Config} {s : State} (h : gateOk c s = true) (hg : c.gated = true) :
    ∀ u, u ∈ s.accepted → bodyEnded (s.phase u) = true := by
  simp [gateOk, hg, List.all_eq_true] at h
  exact h

@[grind =] theorem canExec_iff (s : State) (a : Agent) (t : TaskId) :
    (canExec s a t = true) = ((a = .worker t ∧ s.prim t = false) ∨ (a = .primary ∧ s.pp = .run t)) := by
  cases a <;> simp [canExec]

/-- the accepting check inside `spawn` needs `_shuttingdown` unset, hence the first alternative of `hna` -/
theorem step_noAccept {c : Config} {s s' : State} {a : Agent × Action} (hs : step c s a = some s')
    (hna : s.shut = true ∨ ∀ i, a ≠ (.user i, .spawnCheck)) :
    s'.accepted = s.accepted ∧ s'.prim = s.prim ∧ s'.running.length ≤ s.running.length ∧
      (s.shut = true → s'.shut = true) := by
  obtain ⟨ag, act⟩ := a
  cases ag <;> cases act <;>
    simp only [step, userStep, taskStep, primStep, Action.isPrim, Bool.false_eq_true, ↓reduceIte] at hs
  case user.spawnCheck i =>
    have hsh : s.shut = true := hna.resolve_right fun h => h i rfl
    simp only [hsh, ↓reduceIte] at hs
    split at hs <;> cases hs
    exact ⟨rfl, rfl, Nat.le_refl _, fun _ => rfl⟩
  case user.shutDo =>
    repeat' split at hs
    all_goals cases hs
    all_goals exact ⟨rfl, rfl, Nat.le_refl _, fun _ => rfl⟩
  case worker.tRemove | primary.tRemove =>
    repeat' split at hs
    all_goals cases hs
    all_goals exact ⟨rfl, rfl, List.length_erase_le, id⟩
  all_goals repeat' split at hs
  all_goals cases hs
  all_goals exact ⟨rfl, rfl, Nat.le_refl _, id⟩

theorem step_shut {c : Config} {s s' : State} {a : Agent × Action} (hs : step c s a = some s')
    (hsh : s.shut = true) : s'.shut = true ∧ s'.accepted = s.accepted ∧ s'.running.length ≤ s.running.length :=
  have h := step_noAccept hs (.inl hsh)
  ⟨h.2.2.2 hsh, h.1, h.2.2.1⟩

theorem not_live {p : TPhase} (h : live p = false) : p = .unused ∨ p = .done := by
  cases p <;> simp_all [live]

theorem resultReady_iff {s : State} {t : TaskId} :
    resultReady s t = true ↔ s.phase t = .resReady ∨ s.phase t = .removing ∨ s.phase t = .done := by
  unfold resultReady; cases s.phase t <;> simp

theorem bodyEnded_of_resultReady {s : State} {t : TaskId} (h : resultReady s t = true) :
    bodyEnded (s.phase t) = true := by
  rcases resultReady_iff.1 h with e | e | e <;> rw [e] <;> rfl

theorem live_ne_unused {p : TPhase} (h : live p = true) : p ≠ .unused := by rintro rfl; cases h

theorem primExec_ne_unused {p : TPhase} (h : primExec p = true) : p ≠ .unused := by rintro rfl; cases h

theorem begun_ne_unused {p : TPhase} (h : begun p = true) : p ≠ .unused := by rintro rfl; cases h

theorem begun_of_bodyEnded {p : TPhase} (h : bodyEnded p = true) : begun p = true := by
  cases p <;> simp_all [bodyEnded, begun]

namespace Inv
variable {c : Config} {s : State} (h : Inv c s) {t : TaskId}
include h

theorem done (hd : s.phase t = .done) : t ∈ s.finished ∧ t ∉ s.running :=
  ⟨(h.fin t).2 (hd ▸ rfl), fun hr => by have := (h.run t).1 hr; rw [hd] at this; cases this⟩

theorem done_of_not_running (hne : s.phase t ≠ .unused) (hr : t ∉ s.running) : s.phase t = .done :=
  (not_live (Bool.eq_false_iff.2 (mt (h.run t).2 hr))).resolve_left hne

theorem run_of_primExec (hpr : s.prim t = true) (hx : primExec (s.phase t) = true) : s.pp = .run t :=
  (h.primRun t).2 ⟨hpr, hx⟩

theorem not_run_of_worker (hpr : s.prim t = false) : s.pp ≠ .run t := fun hr => by
  rw [((h.primRun t).1 hr).1] at hpr; cases hpr

theorem inMbox_loop (hp : s.phase t = .inMbox) : s.pp ≠ .left ∧ s.pp ≠ .gone :=
  ⟨fun hl => ((h.leftInv (.inl hl)).1 t).1 hp, fun hl => ((h.leftInv (.inr hl)).1 t).1 hp⟩

theorem exec_lock {a : Agent} (hx : canExec s a t = true) (hp : s.phase t = .removing) : s.lock = some a := by
  rw [canExec_iff] at hx
  rcases hx with ⟨rfl, hx⟩ | ⟨rfl, hx⟩
  · exact (h.lockW t).2 ⟨hp, hx⟩
  · exact h.lockP2 t hx hp

end Inv

/- `inv_step hs` expects the 36 clauses of the pre-state in the context under their field names.  No proof uses
these two tactics; they serve to explore a new clause. -/
set_option hygiene false in
/-- closes one clause of the invariant after a step (the clauses of the pre-state are in the context) -/
macro "inv_close" : tactic => `(tactic| first
  | assumption
  | grind [holdsLock, inWa, live, begun, bodyEnded, primExec, resultReady]
  | grind (splits := 30) [holdsLock, inWa, live, begun, bodyEnded, primExec, resultReady]
  | (intro t ht
     by_cases hp : s.phase t = .pending
     · obtain ⟨j, m, hj⟩ := pend t hp
       refine ⟨j, m, ?_⟩
       grind
     · exfalso
       grind))

/-- splits the step function, and for every enabled branch proves all clauses it can; the rest stay as goals -/
macro "inv_step" hs:ident : tactic => `(tactic| (
  repeat' split at $hs:ident
  all_goals (first | (cases $hs:ident; done) | (cases $hs:ident; constructor <;> dsimp only [] <;> try inv_close))))

end ExecnetVerif.Pool
