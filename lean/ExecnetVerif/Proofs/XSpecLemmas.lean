/-
`splitSS`/`joinSS` and `splitEq`/`unsplit` are inverse pairs: one direction
for every string, the other for well-shaped components.  An accepted iteration of `XSpec.__init__`
`store`s its item, so a successful parse is a fold of `store` over the items of the string
(`parse_ok`); on a printed well-shaped list the loop has a closed form (`loop_pieces`, `parse_print`).
-/
import ExecnetVerif.Model.XSpec
namespace ExecnetVerif.XSpec

theorem splitSS_ne_nil (s : Str) : splitSS s ≠ [] := by
  induction s using splitSS.induct with
  | case1 => simp [splitSS]
  | case2 c => simp [splitSS]
  | case3 c d rest h ih => simp [splitSS, h]
  | case4 c d rest h ih =>
    simp only [splitSS, h, if_false]
    cases splitSS (d :: rest) <;> simp [consHead]

theorem joinSS_consHead (c : Char) : ∀ (l : List Str), joinSS (consHead c l) = c :: joinSS l
  | [] => rfl
  | [_] => rfl
  | _ :: _ :: _ => rfl

theorem joinSS_splitSS (s : Str) : joinSS (splitSS s) = s := by
  induction s using splitSS.induct with
  | case1 => rfl
  | case2 c => rfl
  | case3 c d rest h ih =>
    obtain ⟨rfl, rfl⟩ := h
    simp only [splitSS, and_self, if_true]
    cases hs : splitSS rest with
    | nil => exact absurd hs (splitSS_ne_nil rest)
    | cons a b => rw [hs] at ih; simp [joinSS, ih]
  | case4 c d rest h ih =>
    simp only [splitSS, h, if_false]
    rw [joinSS_consHead, ih]

theorem splitSS_single (p : Str) (h : hasSS p = false) : splitSS p = [p] := by
  induction p using splitSS.induct with
  | case1 => rfl
  | case2 c => rfl
  | case3 c d rest hc ih =>
    obtain ⟨rfl, rfl⟩ := hc
    simp [hasSS] at h
  | case4 c d rest hc ih =>
    simp only [hasSS, Bool.or_eq_false_iff] at h
    simp only [splitSS, hc, if_false, ih h.2, consHead]

theorem endsSlash_cons_cons (c d : Char) (r : Str) : endsSlash (c :: d :: r) = endsSlash (d :: r) := by
  simp [endsSlash, List.getLast?_cons_cons]

theorem splitSS_append_sep (p rest : Str) (h1 : hasSS p = false) (h2 : endsSlash p = false) :
    splitSS (p ++ '/' :: '/' :: rest) = p :: splitSS rest := by
  induction p using splitSS.induct with
  | case1 => simp [splitSS]
  | case2 c =>
    have hc : c ≠ '/' := by
      intro hc; subst hc; simp [endsSlash] at h2
    simp [splitSS, hc, consHead]
  | case3 c d r hc ih =>
    obtain ⟨rfl, rfl⟩ := hc
    simp [hasSS] at h1
  | case4 c d r hc ih =>
    simp only [hasSS, Bool.or_eq_false_iff] at h1
    rw [endsSlash_cons_cons] at h2
    have := ih h1.2 h2
    simp only [List.cons_append] at this ⊢
    simp only [splitSS, hc, if_false, this, consHead]

theorem splitSS_joinSS : ∀ (ps : List Str), ps ≠ [] → (∀ p ∈ ps, hasSS p = false) →
    noInnerTrailingSlash ps = true → splitSS (joinSS ps) = ps
  | [], h, _, _ => absurd rfl h
  | [p], _, h1, _ => by simpa [joinSS] using splitSS_single p (h1 p (by simp))
  | p :: q :: r, _, h1, h2 => by
    simp only [noInnerTrailingSlash, Bool.and_eq_true, Bool.not_eq_true'] at h2
    simp only [joinSS]
    rw [splitSS_append_sep p _ (h1 p (by simp)) h2.1]
    rw [splitSS_joinSS (q :: r) (by simp) (fun x hx => h1 x (by simp [hx])) h2.2]

/-- a component from its key and value: `key`, or `key=value` -/
def unsplit : Str × Val → Str
  | (k, .true) => k
  | (k, .str v) => k ++ '=' :: v

theorem unsplit_cons (c : Char) (k : Str) (v : Val) : unsplit (c :: k, v) = c :: unsplit (k, v) := by
  cases v <;> rfl

theorem splitEq_unsplit (k : Str) (v : Val) (h : k.contains '=' = false) :
    splitEq (unsplit (k, v)) = (k, v) := by
  induction k with
  | nil => cases v <;> simp [unsplit, splitEq]
  | cons c r ih =>
    simp only [List.contains_cons, Bool.or_eq_false_iff, beq_eq_false_iff_ne, ne_eq] at h
    have hc : c ≠ '=' := fun e => h.1 e.symm
    simp [unsplit_cons, splitEq, hc, ih h.2]

theorem unsplit_splitEq (p : Str) : unsplit (splitEq p) = p := by
  induction p with
  | nil => rfl
  | cons c r ih =>
    by_cases hc : c = '='
    · simp [splitEq, hc, unsplit]
    · simp only [splitEq, hc, if_false]
      exact (unsplit_cons c _ _).trans (congrArg _ ih)

theorem piece_eq (kv : Str × Option Str) : piece kv = unsplit (kv.1, toVal kv.2) := by
  obtain ⟨k, v⟩ := kv; cases v <;> rfl

theorem splitEq_piece (kv : Str × Option Str) (h : kv.1.contains '=' = false) :
    splitEq (piece kv) = (kv.1, toVal kv.2) := by
  rw [piece_eq, splitEq_unsplit _ _ h]

theorem hasSS_keyval (k v : Str) (hk : hasSS k = false) (hv : hasSS v = false) :
    hasSS (k ++ '=' :: v) = false := by
  have h0 : hasSS ('=' :: v) = false := by
    cases v with
    | nil => rfl
    | cons d r => simpa [hasSS] using hv
  induction k using hasSS.induct with
  | case1 => exact h0
  | case2 c => simp [hasSS, h0]
  | case3 c d r ih =>
    simp only [hasSS, Bool.or_eq_false_iff] at hk
    have := ih hk.2
    simp only [List.cons_append] at this ⊢
    simp [hasSS, hk.1, this]

theorem hasSS_piece (kv : Str × Option Str) (h : (keyOk kv.1 && valOk kv.2) = true) :
    hasSS (piece kv) = false := by
  obtain ⟨k, v⟩ := kv
  simp only [keyOk, Bool.and_eq_true, Bool.not_eq_true', bne_iff_ne, ne_eq] at h
  cases v with
  | none => exact h.1.1.2
  | some v =>
    have hv : hasSS v = false := by simpa [valOk] using h.2
    exact hasSS_keyval k v h.1.1.2 hv

/-- the (key, value) items of a string in order: components split at their first '=' -/
def itemsOf (s : Str) : List (Str × Val) := (splitSS s).map splitEq

/-- printing items back: `key` / `key=value` joined by "//" -/
def printItems (items : List (Str × Val)) : Str := joinSS (items.map unsplit)

/-- the plain items, in order -/
def plainItems (items : List (Str × Val)) : List (Str × Val) :=
  items.filter (fun kv => !isEnvKey kv.1)

/-- the `env:` items in order, prefix stripped -/
def envItems (items : List (Str × Val)) : List (Str × Val) :=
  (items.filter (fun kv => isEnvKey kv.1)).map (fun kv => (kv.1.drop 4, kv.2))

theorem printItems_itemsOf (s : Str) : printItems (itemsOf s) = s := by
  simp only [printItems, itemsOf, List.map_map]
  have : (unsplit ∘ splitEq) = id := by funext p; simp [unsplit_splitEq]
  rw [this, List.map_id, joinSS_splitSS]

/-- the public keys of the instance dict: `env`, which is there before the loop starts, and every key
processed so far, env: keys with their prefix -/
def seen (o : Obj) : List Str := envName :: o.attrs.map (·.1) ++ o.env.map (fun e => envPrefix ++ e.1)

/-- what an accepted iteration does with its item -/
def store (o : Obj) (kv : Str × Val) : Obj :=
  if isEnvKey kv.1 = true then { o with env := o.env ++ [(kv.1.drop 4, kv.2)] }
  else { o with attrs := o.attrs ++ [kv] }

theorem eq_envPrefix_append_of_isEnvKey (k : Str) (h : isEnvKey k = true) : k = envPrefix ++ k.drop 4 := by
  simp only [isEnvKey, beq_iff_eq] at h
  rw [← h, List.take_append_drop]

theorem isEnvKey_prefix (n : Str) : isEnvKey (envPrefix ++ n) = true := rfl

theorem drop_prefix (n : Str) : (envPrefix ++ n).drop 4 = n := rfl

theorem seen_store (o : Obj) (kv : Str × Val) : (seen (store o kv)).Perm (kv.1 :: seen o) := by
  unfold store seen; split
  · next he =>
    rw [List.map_append, ← List.append_assoc]
    show (_ ++ [envPrefix ++ kv.1.drop 4]).Perm _
    rw [← eq_envPrefix_append_of_isEnvKey _ he]
    exact List.perm_append_singleton _ _
  · rw [List.map_append, ← List.cons_append, List.append_assoc]
    exact List.perm_middle

theorem foldl_store : ∀ (items : List (Str × Val)) (o : Obj), items.foldl store o =
    { o with attrs := o.attrs ++ plainItems items, env := o.env ++ envItems items }
  | [], o => by simp [plainItems, envItems]
  | kv :: t, o => by
    rw [List.foldl_cons, foldl_store t]; unfold store
    split <;> simp [plainItems, envItems, *]

theorem stepPiece_ok {o o' : Obj} {p : Str} (h : stepPiece o p = .ok o') :
    o' = store o (splitEq p) := by
  unfold stepPiece at h
  simp only at h
  split at h
  · cases h
  · split at h
    · cases h
    · split at h
      · cases h
      · -- the two `.ok` branches of `stepPiece` are the two branches of `store`
        unfold store
        split at h <;> cases h
        · exact (if_pos ‹_›).symm
        · exact (if_neg ‹_›).symm

theorem loop_ok_inv : ∀ (ps : List Str) (o x : Obj), loop o ps = .ok x →
    x = (ps.map splitEq).foldl store o
  | [], o, x, h => (Except.ok.inj h).symm
  | p :: t, o, x, h => by
    simp only [loop] at h
    split at h
    · cases h
    · next o' hs => rw [loop_ok_inv t o' x h, stepPiece_ok hs]; rfl

theorem parse_ok {s : Str} {x : Obj} (h : parse s = .ok x) :
    x = { spec := s, attrs := plainItems (itemsOf s), env := envItems (itemsOf s) } := by
  rw [loop_ok_inv _ _ _ h, foldl_store]; simp [itemsOf]

theorem keyOk_cons (k : Str) (h : keyOk k = true) :
    ∃ c r, k = c :: r ∧ c ≠ '_' ∧ k.contains '=' = false := by
  simp only [keyOk, Bool.and_eq_true, Bool.not_eq_true', bne_iff_ne, ne_eq] at h
  obtain ⟨⟨⟨h1, h2⟩, _⟩, h4⟩ := h
  cases k with
  | nil => simp at h1
  | cons c r =>
    refine ⟨c, r, rfl, ?_, h2⟩
    intro e; subst e; simp at h4

theorem cons_ne_specName {c : Char} (r : Str) (hc : c ≠ '_') : c :: r ≠ specName :=
  fun e => hc (List.cons.inj e).1

/-- the duplicate test of `__init__` on a public key: `_spec` is out of reach, an `env:` key is
compared without its prefix -/
theorem dup_iff_seen (o : Obj) (c : Char) (r : Str) (hc : c ≠ '_') :
    (c :: r ∈ dictKeys o ∨ (isEnvKey (c :: r) = true ∧ (c :: r).drop 4 ∈ o.env.map (·.1))) ↔
      c :: r ∈ seen o := by
  simp only [dictKeys, seen, List.mem_cons, List.mem_append, List.mem_map, cons_ne_specName r hc, false_or,
    or_assoc]
  refine or_congr Iff.rfl (or_congr Iff.rfl ⟨?_, ?_⟩)
  · rintro ⟨he, e, hm, hd⟩; exact ⟨e, hm, by rw [hd, ← eq_envPrefix_append_of_isEnvKey _ he]⟩
  · rintro ⟨e, hm, hd⟩; exact ⟨hd ▸ rfl, e, hm, by rw [← hd]; rfl⟩

theorem stepPiece_piece (o : Obj) (kv : Str × Option Str) (hk : keyOk kv.1 = true) :
    stepPiece o (piece kv) =
      if kv.1 ∈ seen o then .error .valueError else .ok (store o (kv.1, toVal kv.2)) := by
  obtain ⟨k, v⟩ := kv
  obtain ⟨c, r, rfl, hc, heq⟩ := keyOk_cons k hk
  simp only [stepPiece, store, splitEq_piece (c :: r, v) heq, hc, if_false, dup_iff_seen o c r hc]
  split
  · rfl
  · split <;> rfl

/-- `(seen o).Nodup`: the instance dict has distinct keys -/
theorem loop_pieces : ∀ (kvs : List (Str × Option Str)) (o : Obj), (∀ kv ∈ kvs, keyOk kv.1 = true) →
    (seen o).Nodup →
    loop o (kvs.map piece) =
      if (seen o ++ kvs.map (·.1)).Nodup then .ok ((kvs.map fun kv => (kv.1, toVal kv.2)).foldl store o)
      else .error .valueError
  | [], o, _, hs => by simp [loop, hs]
  | kv :: t, o, hk, hs => by
    have hp := seen_store o (kv.1, toVal kv.2)
    simp only [List.map_cons, loop, stepPiece_piece o kv (hk kv List.mem_cons_self)]
    by_cases hdup : kv.1 ∈ seen o
    · rw [if_pos hdup, if_neg]
      exact fun h => (List.nodup_append.1 h).2.2 _ hdup _ List.mem_cons_self rfl
    · -- the head is stored: the dict's keys are now `kv.1 :: seen o`, still distinct, and
      -- `seen (store ..) ++ keys of t` is `seen o ++ kv.1 :: keys of t` rearranged
      rw [if_neg hdup]
      simp only [loop_pieces t _ (fun x hx => hk x (List.mem_cons_of_mem _ hx))
        (hp.nodup_iff.2 (List.nodup_cons.2 ⟨hdup, hs⟩)),
        ((hp.append_right _).trans List.perm_middle.symm).nodup_iff, List.foldl_cons]

theorem okShape_parts (kvs : List (Str × Option Str)) (h : okShape kvs = true) :
    kvs ≠ [] ∧ (∀ kv ∈ kvs, (keyOk kv.1 && valOk kv.2) = true) ∧
      noInnerTrailingSlash (kvs.map piece) = true := by
  simp only [okShape, Bool.and_eq_true, Bool.not_eq_true', List.all_eq_true] at h
  refine ⟨?_, ?_, h.2⟩
  · intro e; subst e; simp at h
  · intro kv hkv
    simpa using h.1.2 kv hkv

theorem splitSS_print (kvs : List (Str × Option Str)) (h : okShape kvs = true) :
    splitSS (print kvs) = kvs.map piece := by
  obtain ⟨hne, hall, hts⟩ := okShape_parts kvs h
  apply splitSS_joinSS _ (by simpa using hne) _ hts
  intro p hp
  obtain ⟨kv, hkv, rfl⟩ := List.mem_map.1 hp
  exact hasSS_piece kv (hall kv hkv)

theorem parse_print (kvs : List (Str × Option Str)) (hs : okShape kvs = true) :
    parse (print kvs) =
      if (envName :: kvs.map (·.1)).Nodup then .ok (attrsOf kvs) else .error .valueError := by
  have hk : ∀ kv ∈ kvs, keyOk kv.1 = true := fun kv hkv => by
    have := (okShape_parts kvs hs).2.1 kv hkv; simp only [Bool.and_eq_true] at this; exact this.1
  unfold parse
  rw [splitSS_print kvs hs, loop_pieces kvs _ hk (by simp [seen]), foldl_store]
  simp only [seen, List.map_nil, List.append_nil, List.cons_append, List.nil_append]
  simp [attrsOf, plainItems, envItems, List.filter_map, Function.comp_def]

theorem lookup_of_mem_nodup : ∀ (l : List (Str × Val)) (k : Str) (v : Val),
    (l.map (·.1)).Nodup → (k, v) ∈ l → lookup k l = some v
  | [], _, _, _, h => nomatch h
  | kv :: t, k, v, hnd, hm => by
    simp only [List.map_cons, List.nodup_cons] at hnd
    simp only [List.mem_cons] at hm
    rcases hm with rfl | hm
    · simp [lookup]
    · have : kv.1 ≠ k := by
        rintro rfl
        exact hnd.1 (List.mem_map.2 ⟨(kv.1, v), hm, rfl⟩)
      simp [lookup, this, lookup_of_mem_nodup t k v hnd.2 hm]

theorem lookup_of_not_mem : ∀ (l : List (Str × Val)) (k : Str), k ∉ l.map (·.1) → lookup k l = none
  | [], _, _ => rfl
  | (a, b) :: t, k, h => by
    simp only [List.map_cons, List.mem_cons, not_or] at h
    simp [lookup, Ne.symm h.1, lookup_of_not_mem t k h.2]

theorem attrsOf_keys_sublist (kvs : List (Str × Option Str)) :
    ((attrsOf kvs).attrs.map (·.1)).Sublist (kvs.map (·.1)) := by
  simpa [attrsOf, Function.comp_def] using (List.filter_sublist (l := kvs)).map (·.1)

end ExecnetVerif.XSpec
