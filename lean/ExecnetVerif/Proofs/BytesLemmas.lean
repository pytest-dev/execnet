import ExecnetVerif.Model.Bytes
namespace ExecnetVerif

theorem be4_length (n : Nat) : (be4 n).length = 4 := rfl

theorem be8_length (n : Nat) : (be8 n).length = 8 := rfl

theorem packI32_length (i : Int) : (packI32 i).length = 4 := rfl

theorem val4_be4 (n : Nat) (h : n < 4294967296) :
    val4 (UInt8.ofNat (n / 16777216 % 256)) (UInt8.ofNat (n / 65536 % 256))
      (UInt8.ofNat (n / 256 % 256)) (UInt8.ofNat (n % 256)) = n := by
  unfold val4
  simp only [UInt8.toNat_ofNat', Nat.mod_mod]
  -- the four base-256 digits of `n`; with one divisor `omega` has little to do
  have e2 : n / 65536 = n / 256 / 256 := by rw [Nat.div_div_eq_div_mul]
  have e3 : n / 16777216 = n / 256 / 256 / 256 := by rw [Nat.div_div_eq_div_mul, Nat.div_div_eq_div_mul]
  rw [e2, e3]
  omega

theorem rd4_be4 (n : Nat) (rest : Bytes) (h : n < 4294967296) :
    rd4 (be4 n ++ rest) = some (n, rest) := by
  unfold be4 rd4
  simp only [List.cons_append, List.nil_append]
  rw [val4_be4 n h]

theorem toU32_lt (i : Int) : toU32 i < 4294967296 := by
  unfold toU32; omega

theorem ofU32_toU32 (i : Int) (h : inI32 i) : ofU32 (toU32 i) = i := by
  unfold inI32 at h
  unfold ofU32 toU32
  split <;> omega

theorem rd4_lt {bs : Bytes} {n r} (h : rd4 bs = some (n, r)) : n < 4294967296 := by
  match bs, h with
  | a :: b :: c :: d :: rest, h =>
    cases h
    have := a.toNat_lt; have := b.toNat_lt; have := c.toNat_lt; have := d.toNat_lt
    unfold val4; omega

theorem ofU32_range {n : Nat} (h : n < 4294967296) : inI32 (ofU32 n) := by
  unfold ofU32 inI32; split <;> omega

theorem rd8_be8 (n : Nat) (rest : Bytes) (h : n < 18446744073709551616) :
    rd8 (be8 n ++ rest) = some (n, rest) := by
  unfold be8 rd8
  rw [List.append_assoc, rd4_be4 _ _ (by omega)]
  simp only
  rw [rd4_be4 _ _ (by omega)]
  simp only [Option.some.injEq, Prod.mk.injEq, and_true]
  omega

theorem readN_length_append (b rest : Bytes) : readN b.length (b ++ rest) = some (b, rest) := by
  unfold readN
  simp

theorem isDigit_digitByte (d : Nat) (h : d < 10) : isDigit (digitByte d) = true := by
  unfold isDigit digitByte
  simp only [UInt8.toNat_ofNat']
  have : (48 + d) % 256 = 48 + d := by omega
  simp [this]; omega

theorem digitByte_val (d : Nat) (h : d < 10) : (digitByte d).toNat - 48 = d := by
  unfold digitByte
  simp only [UInt8.toNat_ofNat']
  omega

theorem digitByte_not_us (d : Nat) (h : d < 10) : (digitByte d).toNat ≠ 95 := by
  unfold digitByte
  simp only [UInt8.toNat_ofNat']
  omega

theorem natDigits_ne_nil (n : Nat) : natDigits n ≠ [] := by
  rw [natDigits]; split <;> simp

theorem parseDigits_snoc (d : Nat) (hd : d < 10) : ∀ (l : Bytes) (a k : Nat) (p : Bool) (v m : Nat),
    parseDigits l a k p = some (v, m, []) →
    parseDigits (l ++ [digitByte d]) a k p = some (v * 10 + d, m + 1, []) := by
  intro l
  induction l with
  | nil =>
    intro a k p v m hp
    cases p <;> simp [parseDigits] at hp
    obtain ⟨rfl, rfl⟩ := hp
    simp [parseDigits, isDigit_digitByte d hd, digitByte_val d hd]
  | cons b t iht =>
    intro a k p v m hp
    by_cases hb : isDigit b = true
    · simp only [List.cons_append, parseDigits, hb, if_true] at hp ⊢
      exact iht _ _ _ v m hp
    · by_cases hus : b.toNat = 95
      · simp only [List.cons_append, parseDigits, hb, hus, if_true] at hp ⊢
        cases p
        · simp at hp
        · cases t with
          | nil => simp at hp
          | cons c t' =>
            by_cases hc : isDigit c = true
            · simp only [hc, if_true, List.cons_append] at hp ⊢
              exact iht _ _ _ v m hp
            · simp [hc] at hp
      · simp only [List.cons_append, parseDigits, hb, hus] at hp ⊢
        cases p <;> simp at hp

theorem parseDigits_natDigits (n : Nat) :
    parseDigits (natDigits n) 0 0 false = some (n, (natDigits n).length, []) := by
  fun_induction natDigits n with
  | case1 n h => simp [parseDigits, isDigit_digitByte n h, digitByte_val n h]
  | case2 n h ih =>
    rw [parseDigits_snoc (n % 10) (by omega) _ _ _ _ _ _ ih]
    simp only [List.length_append, List.length_singleton]
    congr 2
    omega

theorem natDigits_head_isDigit (n : Nat) : ∃ c t, natDigits n = c :: t ∧ isDigit c = true := by
  fun_induction natDigits n with
  | case1 n h => exact ⟨_, _, rfl, isDigit_digitByte n h⟩
  | case2 n h ih =>
    obtain ⟨c, t, hc, hd⟩ := ih
    exact ⟨c, t ++ [digitByte (n % 10)], by rw [hc]; rfl, hd⟩

theorem isDigit_not_space {c : UInt8} (h : isDigit c = true) : isSpace c = false := by
  unfold isDigit at h; unfold isSpace
  simp only [Bool.and_eq_true, decide_eq_true_eq] at h
  simp only [Bool.or_eq_false_iff, decide_eq_false_iff_not, Bool.and_eq_false_imp, decide_eq_true_eq]
  omega

theorem parseUnsigned_natDigits (n : Nat) (h : (natDigits n).length ≤ maxStrDigits) :
    parseUnsigned (natDigits n) = some n := by
  obtain ⟨c, t, hc, hd⟩ := natDigits_head_isDigit n
  have hp := parseDigits_natDigits n
  unfold parseUnsigned
  rw [hc] at hp h ⊢
  simp only [hd, if_true, hp, dropSpaces]
  simp only [List.length_cons] at h
  simp; omega

theorem dropSpaces_digit {c : UInt8} {t : Bytes} (hd : isDigit c = true) :
    dropSpaces (c :: t) = c :: t := by
  simp [dropSpaces, isDigit_not_space hd]

theorem parseInt_intText (i : Int) (h : numDigits i ≤ maxStrDigits) :
    parseInt (intText i) = some i := by
  unfold intText numDigits at *
  split
  · rename_i hneg
    have hn : (-i).toNat = i.natAbs := by omega
    rw [hn]
    unfold parseInt
    have h45 : isSpace (45 : UInt8) = false := by decide
    simp only [dropSpaces, h45, Bool.false_eq_true, if_false]
    rw [parseUnsigned_natDigits _ h]
    show some (-(i.natAbs : Int)) = some i
    congr 1; omega
  · rename_i hneg
    have hn : i.toNat = i.natAbs := by omega
    rw [hn]
    obtain ⟨c, t, hc, hd⟩ := natDigits_head_isDigit i.natAbs
    have hu := parseUnsigned_natDigits _ h
    unfold parseInt
    rw [hc] at hu ⊢
    rw [dropSpaces_digit hd]
    have h1 : c ≠ 45 := by intro hc'; subst hc'; revert hd; decide
    have h2 : c ≠ 43 := by intro hc'; subst hc'; revert hd; decide
    split
    · rename_i r heq; simp at heq; exact absurd heq.1 h1
    · rename_i r heq; simp at heq; exact absurd heq.1 h2
    · rw [hu]; show some ((i.natAbs : Nat) : Int) = some i; congr 1; omega

theorem utf8_roundtrip (s : String) : utf8Decode (utf8Encode s) = some s := by
  unfold utf8Decode utf8Encode String.toUTF8
  have : (ByteArray.mk s.toByteArray.data.toList.toArray) = s.toByteArray := by
    simp
  rw [this, String.fromUTF8?, dif_pos s.isValidUTF8]
  rfl

end ExecnetVerif
