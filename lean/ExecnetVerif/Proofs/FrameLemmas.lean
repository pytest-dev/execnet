import ExecnetVerif.Model.Chunk
import ExecnetVerif.Proofs.BytesLemmas
namespace ExecnetVerif

theorem ofU8_toU8 (t : Int) (h : inI8 t) : ofU8 (toU8 t) = t := by
  unfold inI8 at h
  unfold ofU8 toU8
  simp only [UInt8.toNat_ofNat']
  split <;> omega

theorem packHeader_length (t cid : Int) (len : Nat) : (packHeader t cid len).length = 9 := by
  simp [packHeader, packI32_length]

theorem encodeMsg_length (m : Msg) : (encodeMsg m).length = frameLen m := by
  simp [encodeMsg, packHeader_length, frameLen]

/-- The property statements spell the wire bytes `ms.flatMap encodeMsg`, which `encodeAll ms` is by
definition; bytes written `(ms.map encodeMsg).flatten` take `← List.flatMap_def` first before a `rw` with
the `encodeAll` lemmas (as in `C08_atomic_writers`, `C16_proxy_identity`). -/
theorem encodeAll_cons (m : Msg) (ms : List Msg) : encodeAll (m :: ms) = encodeMsg m ++ encodeAll ms := by
  simp [encodeAll]

theorem unpackHeader_packHeader (t cid : Int) (len : Nat) (ht : inI8 t) (hc : inI32 cid) (hl : len < two31) :
    unpackHeader (packHeader t cid len) = some (t, cid, (len : Int)) := by
  have hl' : inI32 (len : Int) := by
    unfold inI32; rw [two31_eq] at hl; omega
  unfold unpackHeader packHeader packI32
  simp only
  rw [rd4_be4 _ _ (toU32_lt cid)]
  simp only
  have h4 := rd4_be4 (toU32 (len : Int)) [] (toU32_lt _)
  rw [List.append_nil] at h4
  rw [h4]
  simp only [ofU8_toU8 t ht, ofU32_toU32 cid hc, ofU32_toU32 _ hl']

theorem unpackHeader_of_length (h : Bytes) (hl : h.length = 9) : ∃ r, unpackHeader h = some r := by
  match h, hl with
  | [a, b0, b1, b2, b3, c0, c1, c2, c3], _ => exact ⟨_, rfl⟩

/-- whatever the nine bytes, the fields `struct.unpack("!bii")` returns are in the ranges
`struct.pack("!bii")` accepts (a negative length is read as 0, see `decodeStream`) -/
theorem unpackHeader_range {h : Bytes} {t cid len : Int} (hu : unpackHeader h = some (t, cid, len)) :
    inI8 t ∧ inI32 cid ∧ len.toNat < two31 := by
  unfold unpackHeader at hu
  split at hu
  · cases hu
  · rename_i b r
    split at hu
    · cases hu
    · rename_i h1
      split at hu
      · rename_i h2
        cases hu
        have := ofU32_range (rd4_lt h2)
        refine ⟨?_, ofU32_range (rd4_lt h1), ?_⟩
        · have := b.toNat_lt; unfold ofU8 inI8; split <;> omega
        · unfold inI32 at this; rw [two31_eq]; omega
      · cases hu

theorem decodeStream_nil : decodeStream [] = ([], .eof) := by
  rw [decodeStream]; simp

theorem decodeStream_short (bs : Bytes) (h0 : bs.length ≠ 0) (h9 : bs.length < 9) :
    decodeStream bs = ([], .midHeader) := by
  rw [decodeStream]; simp [h0, h9]

theorem decodeStream_header (t cid : Int) (len : Nat) (bs : Bytes) (ht : inI8 t) (hc : inI32 cid)
    (hl : len < two31) :
    decodeStream (packHeader t cid len ++ bs) =
      if bs.length < len then ([], .midPayload)
      else (⟨t, cid, bs.take len⟩ :: (decodeStream (bs.drop len)).1, (decodeStream (bs.drop len)).2) := by
  have hlen := packHeader_length t cid len
  rw [decodeStream]
  have h0 : ¬ (packHeader t cid len ++ bs).length = 0 := by rw [List.length_append]; omega
  have h9 : ¬ (packHeader t cid len ++ bs).length < 9 := by rw [List.length_append]; omega
  rw [if_neg h0, dif_neg h9, ← hlen, List.take_left, List.drop_left, unpackHeader_packHeader _ _ _ ht hc hl]
  rfl

theorem decodeStream_encodeMsg_append (m : Msg) (rest : Bytes) (h : wfMsg m) :
    decodeStream (encodeMsg m ++ rest) = (m :: (decodeStream rest).1, (decodeStream rest).2) := by
  rw [encodeMsg, List.append_assoc, decodeStream_header _ _ _ _ h.1 h.2.1 h.2.2,
    if_neg (by simp), List.take_left, List.drop_left]

theorem decodeStream_encodeAll_append (ms : List Msg) (rest : Bytes) (h : wfMsgs ms) :
    decodeStream (encodeAll ms ++ rest) = (ms ++ (decodeStream rest).1, (decodeStream rest).2) := by
  induction ms with
  | nil => simp [encodeAll]
  | cons m t ih =>
    obtain ⟨hm, ht⟩ := List.forall_mem_cons.1 h
    rw [encodeAll_cons, List.append_assoc, decodeStream_encodeMsg_append m _ hm, ih ht]
    rfl

theorem decodeStream_encodeAll (ms : List Msg) (h : wfMsgs ms) :
    decodeStream (encodeAll ms) = (ms, .eof) := by
  have := decodeStream_encodeAll_append ms [] h
  rwa [List.append_nil, decodeStream_nil, List.append_nil] at this

/-- every message the receiver loop returns, from ANY bytes, is one `to_io` could write again -/
theorem decodeStream_wf (bs : Bytes) : wfMsgs (decodeStream bs).1 := by
  fun_induction decodeStream bs with
  | case1 | case2 | case3 | case4 => intro m hm; cases hm
  | case5 bs h0 h9 t cid len hu rest n hlt r ih =>
    obtain ⟨h1, h2, h3⟩ := unpackHeader_range hu
    intro m hm
    rcases List.mem_cons.mp hm with rfl | hm
    · exact ⟨h1, h2, by simp only [List.length_take]; omega⟩
    · exact ih m hm

theorem readExact_ok (chunks : List Bytes) (need : Nat) (acc : Bytes)
    (hne : ∀ c ∈ chunks, c ≠ []) (hle : need ≤ chunks.flatten.length) :
    ∃ chunks', readExact chunks need acc = .ok (acc ++ chunks.flatten.take need, chunks') ∧
      chunks'.flatten = chunks.flatten.drop need ∧ (∀ c ∈ chunks', c ≠ []) := by
  fun_induction readExact chunks need acc with
  | case1 acc => exact ⟨[], by simp, by simp, by simp⟩
  | case2 need acc h0 => simp at hle; exact absurd hle h0
  | case3 c cs acc => exact ⟨c :: cs, by simp, by simp, hne⟩
  | case4 c cs need acc h0 hc => exact absurd (List.eq_nil_of_length_eq_zero hc) (hne c (by simp))
  | case5 c cs need acc h0 hc hcn ih =>
    simp only [List.flatten_cons, List.length_append] at hle
    obtain ⟨chunks', he, hf, hn⟩ := ih (fun x hx => hne x (by simp [hx])) (by omega)
    refine ⟨chunks', ?_, ?_, hn⟩
    · rw [he, List.flatten_cons, List.take_append, List.take_of_length_le hcn, List.append_assoc]
    · rw [hf, List.flatten_cons, List.drop_append, List.drop_of_length_le hcn, List.nil_append]
  | case6 c cs need acc h0 hc hcn =>
    have hlt : need < c.length := by omega
    refine ⟨c.drop need :: cs, ?_, ?_, ?_⟩
    · rw [List.flatten_cons, List.take_append_of_le_length (by omega)]
    · rw [List.flatten_cons, List.flatten_cons, List.drop_append_of_le_length (by omega)]
    · intro x hx
      rcases List.mem_cons.mp hx with rfl | h
      · intro hnil
        have := congrArg List.length hnil
        simp at this; omega
      · exact hne x (by simp [h])

theorem readExact_short (chunks : List Bytes) (need : Nat) (acc : Bytes)
    (hne : ∀ c ∈ chunks, c ≠ []) (hlt : chunks.flatten.length < need) :
    readExact chunks need acc = .error (acc.length + chunks.flatten.length) := by
  fun_induction readExact chunks need acc with
  | case1 acc => simp at hlt
  | case2 need acc h0 => simp
  | case3 c cs acc => simp at hlt
  | case4 c cs need acc h0 hc => exact absurd (List.eq_nil_of_length_eq_zero hc) (hne c (by simp))
  | case5 c cs need acc h0 hc hcn ih =>
    simp only [List.flatten_cons, List.length_append] at hlt ⊢
    rw [ih (fun x hx => hne x (by simp [hx])) (by omega), List.length_append, Nat.add_assoc]
  | case6 c cs need acc h0 hc hcn =>
    simp only [List.flatten_cons, List.length_append] at hlt
    omega

theorem readExact_zero (chunks : List Bytes) (acc : Bytes) : readExact chunks 0 acc = .ok (acc, chunks) := by
  cases chunks <;> simp [readExact]

/-- on chunks that are all non-empty the first `read(n)` of `Unserializer._read_exact` is just the first
round of the read-until-n loop -/
theorem unserReadExact_eq (chunks : List Bytes) (n : Nat) (hne : ∀ c ∈ chunks, c ≠ []) :
    unserReadExact chunks n = readExact chunks n [] := by
  cases chunks with
  | nil => by_cases h : n = 0 <;> simp [unserReadExact, lowRead, readExact, h]
  | cons c cs =>
    have hc : c.length ≠ 0 := fun h => hne c (by simp) (List.eq_nil_of_length_eq_zero h)
    by_cases h0 : n = 0
    · subst h0; simp [unserReadExact, lowRead, readExact, hc]
    · by_cases h1 : c.length ≤ n
      · by_cases h2 : n ≤ c.length
        · -- the first chunk fits exactly: both stop after it
          have : n - c.length = 0 := by omega
          simp [unserReadExact, lowRead, readExact, h0, hc, h1, h2, this, readExact_zero]
        · -- the first chunk is too short: both go on with `c` in hand
          simp [unserReadExact, lowRead, readExact, h0, hc, h1, h2]
      · -- the first chunk is longer: both take its first `n` bytes
        have : min n c.length = n := by omega
        simp [unserReadExact, lowRead, readExact, h0, hc, h1, this]

theorem totalLen_eq (chunks : List Bytes) : totalLen chunks = chunks.flatten.length := by
  simp [totalLen, List.length_flatten]

/-- One frame is unfolded on both sides: `readExact_ok` / `readExact_short` turn each chunked read into
`take` / `drop` of the flattened bytes; the fuel lasts because a frame eats at least its 9 header bytes. -/
theorem decodeChunkedFuel_eq : ∀ (fuel : Nat) (chunks : List Bytes),
    (∀ c ∈ chunks, c ≠ []) → chunks.flatten.length < fuel →
    decodeChunkedFuel fuel chunks = decodeStream chunks.flatten := by
  intro fuel
  induction fuel with
  | zero => intro chunks _ h; omega
  | succ fuel ih =>
    intro chunks hne hfuel
    rw [decodeStream]
    by_cases h0 : chunks.flatten.length = 0
    · have := readExact_short chunks 9 [] hne (by omega)
      simp only [decodeChunkedFuel, this, h0, List.length_nil, if_true]
    · by_cases h9 : chunks.flatten.length < 9
      · have := readExact_short chunks 9 [] hne h9
        obtain ⟨k, hk⟩ : ∃ k, chunks.flatten.length = k + 1 := ⟨chunks.flatten.length - 1, by omega⟩
        have h9' : k + 1 < 9 := by omega
        simp only [decodeChunkedFuel, this, List.length_nil, hk, Nat.zero_add, h9', dite_true,
          Nat.succ_ne_zero, if_false]
      · obtain ⟨chunks1, he1, hf1, hn1⟩ := readExact_ok chunks 9 [] hne (by omega)
        obtain ⟨⟨t, cid, len⟩, hu⟩ := unpackHeader_of_length (chunks.flatten.take 9)
          (by rw [List.length_take]; omega)
        simp only [decodeChunkedFuel, he1, List.nil_append, hu, h0, h9, if_false, dite_false]
        by_cases hp : (chunks.flatten.drop 9).length < len.toNat
        · have := readExact_short chunks1 len.toNat [] hn1 (by rw [hf1]; exact hp)
          simp only [this, hp, if_true]
        · obtain ⟨chunks2, he2, hf2, hn2⟩ := readExact_ok chunks1 len.toNat [] hn1
            (by rw [hf1]; omega)
          have hlen2 : chunks2.flatten.length < fuel := by
            rw [hf2, hf1]; simp only [List.length_drop]; omega
          simp only [he2, List.nil_append, hp, if_false, ih chunks2 hn2 hlen2, hf2, hf1]

theorem decodeStreamChunked_eq (chunks : List Bytes) (hne : ∀ c ∈ chunks, c ≠ []) :
    decodeStreamChunked chunks = decodeStream chunks.flatten := by
  unfold decodeStreamChunked
  exact decodeChunkedFuel_eq _ chunks hne (by rw [totalLen_eq]; omega)

theorem decodeStream_take_encodeAll (ms : List Msg) (k : Nat) (h : wfMsgs ms) :
    decodeStream ((encodeAll ms).take k) = framesBefore ms k := by
  fun_induction framesBefore ms k with
  | case1 => simp [encodeAll, decodeStream_nil]
  | case2 m ms => simp [decodeStream_nil]
  | case3 m ms k h0 h9 =>
    -- the cut falls inside the first header
    have hL : (encodeMsg m).length = 9 + m.data.length := encodeMsg_length m
    apply decodeStream_short <;> rw [List.length_take, encodeAll_cons, List.length_append, hL] <;> omega
  | case4 m ms k h0 h9 hk =>
    -- inside the first payload: what is left is the whole header and a short payload
    have hL : (encodeMsg m).length = frameLen m := encodeMsg_length m
    obtain ⟨h1, h2, h3⟩ := (List.forall_mem_cons.1 h).1
    rw [encodeAll_cons, List.take_append_of_le_length (by omega), encodeMsg, List.take_append,
      packHeader_length, List.take_of_length_le (by rw [packHeader_length]; omega),
      decodeStream_header _ _ _ _ h1 h2 h3,
      if_pos (by rw [List.length_take]; unfold frameLen at hk; omega)]
  | case5 m ms k h0 h9 hk r ih =>
    -- behind the first frame: it is decoded whole, and the cut moves into the rest
    have hL : (encodeMsg m).length = frameLen m := encodeMsg_length m
    rw [encodeAll_cons, List.take_append, List.take_of_length_le (by omega), hL,
      decodeStream_encodeMsg_append m _ (List.forall_mem_cons.1 h).1, ih (List.forall_mem_cons.1 h).2]

theorem framesBefore_fst_eq_take (ms : List Msg) (k : Nat) :
    (framesBefore ms k).1 = ms.take (completeWithin ms k) := by
  have hF : ∀ m : Msg, frameLen m = 9 + m.data.length := fun _ => rfl
  fun_induction framesBefore ms k with
  | case1 => rfl
  | case2 m ms => simp [completeWithin, hF]
  | case3 m ms k h0 h9 => rw [completeWithin, if_neg (by rw [hF]; omega)]; rfl
  | case4 m ms k h0 h9 hk => rw [completeWithin, if_neg (by omega)]; rfl
  | case5 m ms k h0 h9 hk r ih => rw [completeWithin, if_pos (by omega), List.take_succ_cons, ← ih]

theorem framesBefore_all (ms : List Msg) (k : Nat) (hk : (encodeAll ms).length ≤ k) :
    framesBefore ms k = (ms, .eof) := by
  have hF : ∀ m : Msg, frameLen m = 9 + m.data.length := fun _ => rfl
  fun_induction framesBefore ms k with
  | case1 => rfl
  | case2 m ms | case3 m ms k h0 h9 | case4 m ms k h0 h9 hl =>
    have := hF m
    rw [encodeAll_cons, List.length_append, encodeMsg_length] at hk
    omega
  | case5 m ms k h0 h9 hl r ih =>
    rw [encodeAll_cons, List.length_append, encodeMsg_length] at hk
    simp only [r, ih (by omega)]

/-- a sample for the non-vacuity examples of the frame properties: extreme type codes, channel ids and
an empty payload -/
def exampleMsgs : List Msg :=
  [⟨4, 2147483647, [1, 2, 3]⟩, ⟨-128, -2147483648, []⟩, ⟨127, -1, [0, 255]⟩, ⟨5, 0, []⟩]

end ExecnetVerif
