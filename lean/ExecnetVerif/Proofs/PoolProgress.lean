/-
Progress lemmas for the WorkerPool model: in a state satisfying `Inv`, whoever holds the lock, and whoever
executes an unfinished task, has an enabled step that is neither a time-out nor the start of a new API call.
-/
import ExecnetVerif.Proofs.PoolReach
namespace ExecnetVerif.Pool

/-- some step other than a time-out expiry or the start of a new client call is enabled -/
def Progress (c : Config) (s : State) : Prop :=
  ∃ a : Agent × Action, a.2.isTimeout = false ∧ a.2.isCall = false ∧ (step c s a).isSome = true

/-- the submission protocol the property prescribes for `main_thread_only` pools with a primary thread -/
def Protocol (c : Config) : Prop := c.primary = true → c.mto = true → c.gated = true

theorem progress_user {c : Config} {s : State} (i : Uid) (act : Action)
    (h1 : act.isTimeout = false) (h2 : act.isCall = false) (h : (userStep c s i act).isSome = true) :
    Progress c s := ⟨(.user i, act), h1, h2, by simpa [step] using h⟩

theorem progress_prim {c : Config} {s : State} (act : Action)
    (hp : act.isPrim = true) (h : (primStep c s act).isSome = true) : Progress c s := by
  refine ⟨(.primary, act), ?_, ?_, by simpa [step, hp] using h⟩ <;> cases act <;> simp_all [Action.isPrim, Action.isTimeout, Action.isCall]

theorem progress_task {c : Config} {s : State} (a : Agent) (t : TaskId) (act : Action)
    (hx : canExec s a t = true) (hact : act.isPrim = false) (h1 : act.isTimeout = false) (h2 : act.isCall = false)
    (h : (taskStep s a act).isSome = true) : Progress c s := by
  refine ⟨(a, act), h1, h2, ?_⟩
  cases a with
  | user i => simp [canExec] at hx
  | worker u => simpa [step] using h
  | primary => simpa [step, hact] using h

theorem canExec_exists {c : Config} {s : State} (h : Inv c s) (t : TaskId)
    (hp : primExec (s.phase t) = true ∨ s.phase t = .created) : ∃ a, canExec s a t = true := by
  cases hprim : s.prim t
  · exact ⟨.worker t, by simp [canExec, hprim]⟩
  · rcases hp with hp | hp
    · exact ⟨.primary, by simp [canExec, h.run_of_primExec hprim hp]⟩
    · have := h.workOf t hp; simp_all

theorem exec_progress {c : Config} {s : State} (h : Inv c s) (t : TaskId)
    (hp : s.phase t = .inHand ∨ s.phase t = .created ∨ s.phase t = .body ∨ s.phase t = .ended ∨ s.phase t = .removing) :
    Progress c s := by
  obtain ⟨a, ha⟩ := canExec_exists h t (by rcases hp with hp | hp | hp | hp | hp <;> simp [hp, primExec])
  rcases hp with hp | hp | hp | hp | hp
  · exact progress_task a t (.tBegin t) ha rfl rfl rfl (by simp [taskStep, ha, hp])
  · exact progress_task a t (.tBegin t) ha rfl rfl rfl (by simp [taskStep, ha, hp])
  · exact progress_task a t (.tEnd t) ha rfl rfl rfl (by simp [taskStep, ha, hp])
  · exact progress_task a t (.tSetReady t) ha rfl rfl rfl (by simp [taskStep, ha, hp])
  · refine progress_task a t (.tRemove t) ha rfl rfl rfl ?_
    simp only [taskStep, ha, hp, and_self, if_true]
    split <;> simp

theorem swait_progress {c : Config} {s : State} (h : Inv c s) (hg : c.gated = true) (i : Uid) (t m : TaskId)
    (hu : s.us i = .spawnWait t m) : Progress c s := by
  have hend := h.gateW hg i t m hu
  by_cases hr : resultReady s m = true
  · exact progress_user i .spawnWaitfin rfl rfl (by simp [userStep, hu, hr])
  · -- the body has ended but the result is not ready: `m`'s executor sets it
    have hm : s.phase m = .ended := by
      rw [resultReady_iff] at hr; revert hend hr; cases s.phase m <;> simp [bodyEnded]
    exact exec_progress h m (by simp [hm])

theorem swait_gated {c : Config} {s : State} (h : Inv c s) (hp : Protocol c) (i : Uid) (t m : TaskId)
    (hu : s.us i = .spawnWait t m) : c.gated = true := by
  have h2 := h.swaitC i t m hu
  exact hp h2.1 h2.2

theorem lock_progress {c : Config} {s : State} (h : Inv c s) (hp : Protocol c) (a : Agent)
    (hl : s.lock = some a) : Progress c s := by
  cases a with
  | user i =>
    have hh := (h.lockU i).1 hl
    cases hu : s.us i <;> simp [hu, holdsLock] at hh
    case spawnHold =>
      exact progress_user i .spawnCheck rfl rfl (by
        simp only [userStep, hu]
        split
        · simp
        · split
          · simp
          · split <;> simp)
    case spawnWait t m => exact swait_progress h (swait_gated h hp i t m hu) i t m hu
    case spawnRel => exact progress_user i .spawnRelease rfl rfl (by simp [userStep, hu])
    case shutHold => exact progress_user i .shutDo rfl rfl (by simp only [userStep, hu]; split <;> simp)
    case waHold => exact progress_user i .waCheck rfl rfl (by simp only [userStep, hu]; split <;> simp)
  | worker t =>
    have hh := (h.lockW t).1 hl
    exact exec_progress h t (by simp [hh.1])
  | primary =>
    have hh := h.lockP3 hl
    cases hpp : s.pp with
    | chk t => exact progress_prim .pCheck rfl (by
        simp only [primStep, hpp]
        split
        · split
          · simp
          · split <;> simp
        · split
          · split <;> simp
          · simp)
    | run t => exact exec_progress h t (by simp [(hh.2.2.2.2 t).2 hpp])
    | waitReady => simp [hpp] at hh
    | readMbox => simp [hpp] at hh
    | left => simp [hpp] at hh
    | gone => simp [hpp] at hh
    | chkAcq t => have := (hh.2.2.2.2 t).1; simp [hpp] at this

theorem resReady_progress {c : Config} {s : State} (h : Inv c s) (hp : Protocol c) (t : TaskId)
    (ht : s.phase t = .resReady) : Progress c s := by
  cases hl : s.lock with
  | some a => exact lock_progress h hp a hl
  | none =>
    obtain ⟨a, ha⟩ := canExec_exists h t (by simp [ht, primExec])
    exact progress_task a t (.tRemAcq t) ha rfl rfl rfl (by simp [taskStep, ha, ht, hl])

theorem prim_progress {c : Config} {s : State} (h : Inv c s) (hp : Protocol c)
    (hpp : s.pp ≠ .gone) (hw : s.pp = .waitReady → s.ready = true) : Progress c s := by
  cases hq : s.pp with
  | gone => exact absurd hq hpp
  | waitReady => exact progress_prim .pWait rfl (by simp [primStep, hq, hw hq])
  | readMbox => exact progress_prim .pRead rfl (by cases hm : s.mbox <;> simp [primStep, hq, hm])
  | left => exact progress_prim .pLeave rfl (by simp [primStep, hq])
  | chk t => exact lock_progress h hp .primary (h.lockP1 t hq)
  | chkAcq t =>
    cases hl : s.lock with
    | some a => exact lock_progress h hp a hl
    | none => exact progress_prim .pChkAcq rfl (by simp [primStep, hq, hl])
  | run t =>
    have hx := ((h.primRun t).1 hq).2
    by_cases hph : s.phase t = .resReady
    · exact resReady_progress h hp t hph
    · exact exec_progress h t (by revert hx hph; cases s.phase t <;> simp [primExec])

end ExecnetVerif.Pool
