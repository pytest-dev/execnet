import ExecnetVerif.Model.Chunk
namespace ExecnetVerif

variable {α β : Type}

/-- an interleaving of the mapped sequences is the image of an interleaving of the sequences -/
theorem Interleaving.map_inv (f : α → β) {seqs' : List (List β)} {out : List β}
    (h : Interleaving seqs' out) :
    ∀ seqs : List (List α), seqs' = seqs.map (List.map f) →
      ∃ m, out = m.map f ∧ Interleaving seqs m := by
  induction h with
  | done hall =>
    intro seqs he
    refine ⟨[], rfl, .done ?_⟩
    intro s hs
    have : s.map f ∈ seqs.map (List.map f) := List.mem_map_of_mem hs
    have := hall _ (he ▸ this)
    simpa using this
  | step i x s hi _ ih =>
    intro seqs he
    subst he
    rw [List.getElem?_map] at hi
    cases hu : seqs[i]? with
    | none => simp [hu] at hi
    | some u =>
      simp only [hu, Option.map_some, Option.some.injEq] at hi
      cases u with
      | nil => simp at hi
      | cons y u' =>
        simp only [List.map_cons, List.cons.injEq] at hi
        obtain ⟨hy, hs⟩ := hi
        obtain ⟨m', hm', hint⟩ := ih (seqs.set i u') (by rw [List.map_set, hs])
        exact ⟨y :: m', by simp [hy, hm'], .step i y u' hu hint⟩

theorem Interleaving.sublist {seqs : List (List α)} {out : List α} (h : Interleaving seqs out) :
    ∀ (i : Nat) (s : List α), seqs[i]? = some s → s.Sublist out := by
  induction h with
  | done hall =>
    intro i s hi
    have := hall s (List.mem_of_getElem? hi)
    simp [this]
  | step j x u hj _ ih =>
    intro i s hi
    by_cases hij : j = i
    · subst hij
      rw [hj] at hi
      cases hi
      have hlt : j < _ := (List.getElem?_eq_some_iff.mp hj).1
      exact (ih j u (by rw [List.getElem?_set_self hlt])).cons_cons x
    · exact (ih i s (by rw [List.getElem?_set_ne hij]; exact hi)).cons x

theorem flatten_perm_of_getElem? : ∀ (seqs : List (List α)) (i : Nat) (x : α) (s : List α),
    seqs[i]? = some (x :: s) → seqs.flatten.Perm (x :: (seqs.set i s).flatten) := by
  intro seqs
  induction seqs with
  | nil => intro i x s h; simp at h
  | cons a t ih =>
    intro i x s h
    cases i with
    | zero =>
      simp only [List.getElem?_cons_zero, Option.some.injEq] at h
      subst h
      simp
    | succ i =>
      simp only [List.getElem?_cons_succ] at h
      simp only [List.set_cons_succ, List.flatten_cons]
      have := (ih i x s h).append_left a
      exact this.trans List.perm_middle

theorem Interleaving.perm {seqs : List (List α)} {out : List α} (h : Interleaving seqs out) :
    out.Perm seqs.flatten := by
  induction h with
  | done hall =>
    rename_i seqs
    have : seqs.flatten = [] := by
      simp only [List.flatten_eq_nil_iff]; exact hall
    simp [this]
  | step i x s hi _ ih =>
    exact ((ih.cons x).trans (flatten_perm_of_getElem? _ i x s hi).symm)

theorem Interleaving.mem {seqs : List (List α)} {out : List α} (h : Interleaving seqs out) :
    ∀ x ∈ out, ∃ s ∈ seqs, x ∈ s :=
  fun _ hx => List.mem_flatten.mp (h.perm.mem_iff.mp hx)

end ExecnetVerif
