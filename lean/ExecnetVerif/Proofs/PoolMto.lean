/-
`main_thread_only` pools with a primary thread never start a worker thread: every accepted task is handed to
the primary thread (used by C14: "every body runs in the worker's main thread, one at a time").
-/
import ExecnetVerif.Proofs.PoolReach
namespace ExecnetVerif.Pool

/-- every accepted task belongs to the primary thread -/
def AllPrim (s : State) : Prop := ∀ t, s.phase t ≠ .unused → s.prim t = true

theorem allPrim_reachable {c : Config} {s : State} (hc : c.old = false) (hp : c.primary = true) (hm : c.mto = true)
    (h : Reachable c s) : AllPrim s := by
  induction h with
  | init => intro t ht; simp [init] at ht
  | @step s1 s2 a hr hs ih =>
    have inv := inv_reachable hc hr
    have inv2 := inv_step hc inv hs
    by_cases ha : ∃ i, a = (.user i, .spawnCheck)
    · obtain ⟨i, rfl⟩ := ha
      simp only [step, userStep, hp, hm, Bool.and_self] at hs
      split at hs
      next t _ =>
        split at hs
        · cases hs; exact ih
        next hsh =>
          split at hs
          · cases hs; intro u; have := ih u; grind
          next hrd =>
            split at hs
            · cases hs; intro u; have := ih u; grind
            next hmb =>
              -- the only branch of `spawn` that starts a worker thread needs a set event with an empty mailbox,
              -- which means shutdown (and then `spawn` has already refused)
              exfalso
              cases hm' : s1.mbox with
              | some m => exact hmb m rfl hm'
              | none =>
                cases hr' : s1.ready with
                | false => exact hrd ⟨trivial, hr'⟩
                | true => exact hsh (inv.mbNone hm' hr')
      · cases hs
    · obtain ⟨hacc, hprim, -⟩ := step_noAccept hs (.inr fun i hi => ha ⟨i, hi⟩)
      intro t ht
      rw [hprim]
      exact ih t ((inv.acc t).1 (hacc ▸ (inv2.acc t).2 ht))

end ExecnetVerif.Pool
