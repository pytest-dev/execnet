/-
`Group.terminate` layer by layer, each layer through one lemma that says all the next one needs: a bounded wait
(`waitStep_spec`), one `safe_terminate` call (`roundElapsed_spec`), one iteration of the loop (`roundStep_spec`).
-/
import ExecnetVerif.Model.Terminate
namespace ExecnetVerif.Terminate

theorem _root_.List.exists_forall_le_of_ne_nil {α : Type} (f : α → Nat) (ms : List α) (hne : ms ≠ []) :
    ∃ m ∈ ms, ∀ m' ∈ ms, f m' ≤ f m := by
  obtain ⟨a, ha⟩ := Option.isSome_iff_exists.1 (List.isSome_max?_of_ne_nil (l := ms.map f) (by simpa using hne))
  obtain ⟨hmem, hle⟩ := List.max?_eq_some_iff.1 ha
  obtain ⟨m, hm, rfl⟩ := List.mem_map.1 hmem
  exact ⟨m, hm, fun m' h' => hle _ (List.mem_map_of_mem h')⟩

theorem mem_vias {ms : List Member} {v : Nat} : v ∈ vias ms ↔ ∃ m ∈ ms, m.via = some v := by
  simp [vias, List.mem_filterMap]

theorem isLeaf_iff {ms : List Member} {m : Member} :
    isLeaf ms m = true ↔ ∀ m' ∈ ms, m'.via ≠ some m.id := by
  simp [isLeaf, mem_vias]

/-- a member of maximal rank is a leaf -/
theorem leaf_exists {ms : List Member} (h : AcyclicVia ms) (hne : ms ≠ []) :
    ∃ m ∈ ms, isLeaf ms m = true := by
  obtain ⟨rank, hr⟩ := h
  obtain ⟨m, hm, hmax⟩ := List.exists_forall_le_of_ne_nil (fun m => rank m.id) ms hne
  refine ⟨m, hm, isLeaf_iff.2 ?_⟩
  intro m' hm' hv
  have h1 := hr m' hm' m.id hv (List.mem_map.2 ⟨m, hm, rfl⟩)
  have h2 := hmax m' hm'
  omega

theorem rest_length_le {ms : List Member} (h : AcyclicVia ms) : (rest ms).length ≤ ms.length - 1 := by
  by_cases hne : ms = []
  · simp [hne, rest]
  · obtain ⟨m, hm, hl⟩ := leaf_exists h hne
    have : (rest ms).length < ms.length := List.length_filter_lt_length_iff_exists.2 ⟨m, hm, by simp [hl]⟩
    omega

theorem mem_of_mem_leaves {ms : List Member} {m : Member} (h : m ∈ leaves ms) : m ∈ ms := (List.mem_filter.1 h).1

theorem mem_of_mem_rest {ms : List Member} {m : Member} (h : m ∈ rest ms) : m ∈ ms := (List.mem_filter.1 h).1

theorem acyclic_filter {ms : List Member} (p : Member → Bool) (h : AcyclicVia ms) :
    AcyclicVia (ms.filter p) := by
  obtain ⟨rank, hr⟩ := h
  refine ⟨rank, ?_⟩
  intro m hm v hv hin
  have hm' : m ∈ ms := (List.mem_filter.1 hm).1
  apply hr m hm' v hv
  obtain ⟨x, hx, rfl⟩ := List.mem_map.1 hin
  exact List.mem_map.2 ⟨x, (List.mem_filter.1 hx).1, rfl⟩

theorem mem_leaves_or_rest {ms : List Member} {m : Member} (h : m ∈ ms) : m ∈ leaves ms ∨ m ∈ rest ms := by
  by_cases hl : isLeaf ms m = true
  · exact Or.inl (List.mem_filter.2 ⟨h, hl⟩)
  · exact Or.inr (List.mem_filter.2 ⟨h, by simpa using hl⟩)

/-- number of replies that never finish -/
def countNone : List (Option Nat) → Nat
  | [] => 0
  | none :: fs => countNone fs + 1
  | some _ :: fs => countNone fs

theorem countNone_eq_zero : ∀ {fs : List (Option Nat)}, (∀ f ∈ fs, f ≠ none) → countNone fs = 0
  | [], _ => rfl
  | none :: _, h => absurd rfl (h none (by simp))
  | some _ :: fs, h => countNone_eq_zero (fs := fs) fun f hf => h f (List.mem_cons_of_mem _ hf)

theorem optLe_mono {a : Option Nat} {b b' : Nat} (h : optLe a b) (hb : b ≤ b') : optLe a b' := by
  cases a with
  | none => exact h
  | some x => simp only [optLe, decide_eq_true_eq] at *; omega

theorem optLe_optMax {a b : Option Nat} {x : Nat} : optLe (optMax a b) x ↔ optLe a x ∧ optLe b x := by
  cases a <;> cases b <;> simp [optMax, optLe, Nat.max_le]

theorem optLe_allFinish {fs : List (Option Nat)} {x : Nat} : optLe (allFinish fs) x ↔ ∀ f ∈ fs, optLe f x := by
  induction fs with
  | nil => simp [allFinish, optLe]
  | cons f fs ih => simp [allFinish, optLe_optMax, ih]

/-- `optLe f b`: `f` is over by `b`; last clause: `f` is over when the wait returns, or the wait timed out -/
theorem waitStep_spec (w cur : Nat) (f : Option Nat) :
    ∃ x, waitStep (some w) cur f = some x ∧ cur ≤ x ∧ x ≤ cur + w ∧ (∀ b, optLe f b → x ≤ max cur b) ∧
      (optLe f x ∨ x = cur + w) := by
  cases f with
  | none => exact ⟨cur + w, rfl, by omega, by omega, by simp [optLe], .inr rfl⟩
  | some y =>
    simp only [waitStep, optLe, decide_eq_true_eq]
    split
    · exact ⟨_, rfl, by omega, by omega, fun b h => by omega, .inl (by omega)⟩
    · exact ⟨_, rfl, by omega, by omega, fun b h => by omega, .inr rfl⟩

theorem waitReplies_bound (w B : Nat) : ∀ (fs : List (Option Nat)) (cur : Nat),
    (∀ f ∈ fs, ∀ y, f = some y → y ≤ B) →
    ∃ x, waitReplies (some w) cur fs = some x ∧ x ≤ max cur B + countNone fs * w
  | [], cur, _ => ⟨cur, rfl, by simp [countNone]; exact Nat.le_max_left _ _⟩
  | f :: fs, cur, h => by
    obtain ⟨x', hx', _, h2', h3', _⟩ := waitStep_spec w cur f
    obtain ⟨x, hx, h2⟩ := waitReplies_bound w B fs x' (fun f hf => h f (List.mem_cons_of_mem _ hf))
    refine ⟨x, by simp [waitReplies, hx', hx], ?_⟩
    cases f with
    | none => simp only [countNone, Nat.succ_mul]; omega
    | some y =>
      have := h3' y (by simp [optLe])
      have := h (some y) (by simp) y rfl
      simp only [countNone]; omega

theorem waitReplies_all (w : Nat) : ∀ (fs : List (Option Nat)) (cur : Nat),
    (∀ f ∈ fs, ∃ y, f = some y ∧ y ≤ w) →
    ∃ x, waitReplies (some w) cur fs = some x ∧ cur ≤ x ∧ (∀ f ∈ fs, ∃ y, f = some y ∧ y ≤ x)
  | [], cur, _ => ⟨cur, rfl, Nat.le_refl _, by simp⟩
  | f :: fs, cur, h => by
    obtain ⟨y, rfl, hy⟩ := h f (by simp)
    obtain ⟨x', hx', h1', _, _, h4'⟩ := waitStep_spec w cur (some y)
    obtain ⟨x, hx, h1, h2⟩ := waitReplies_all w fs x' (fun f hf => h f (List.mem_cons_of_mem _ hf))
    refine ⟨x, by simp [waitReplies, hx', hx], by omega, ?_⟩
    intro f hf
    rcases List.mem_cons.1 hf with rfl | hf'
    · simp only [optLe, decide_eq_true_eq] at h4'
      exact ⟨y, rfl, by omega⟩
    · exact h2 f hf'

theorem termkillFinish_le (t c : Nat) (m : Member) (y : Nat) (h : termkillFinish (some t) c m = some y) :
    y ≤ t + c := by
  unfold termkillFinish at h
  split at h
  · cases hk : m.kill <;> simp [hk] at h <;> omega
  · rename_i hnk
    cases hn : natural m.remote with
    | none => simp [hn] at h
    | some d =>
      simp [hn] at h
      simp [killCalled, hn] at hnk
      omega

theorem effective_finish (t c : Nat) (m : Member) (hk : m.kill = .effective) :
    optLe (memberFinish (some t) c m) (t + c) := by
  unfold memberFinish termkillFinish termFinish
  cases hn : natural m.remote with
  | none => simp [killCalled, hn, hk, optMin, optMax, optLe]
  | some d =>
    by_cases hd : t < d
    · simp [killCalled, hn, hk, hd, optMin, optMax, optLe]; omega
    · simp [killCalled, hn, hd, optMax, optLe]; omega

/-- `cur` is when the reply waits end; the final `waitall` is a bounded wait for all pool tasks -/
theorem roundElapsed_spec (t c : Nat) (js : List Member) :
    ∃ cur e, roundElapsed (some t) c js = some e ∧ e ≤ cur + t * waitFactor ∧
      cur ≤ t + c + countNone (js.map (termkillFinish (some t) c)) * (t * waitFactor) ∧
      (∀ b, (∀ m ∈ js, optLe (memberFinish (some t) c m) b) → e ≤ max cur b) ∧
      ((∀ m ∈ js, optLe (memberFinish (some t) c m) e) ∨ t * waitFactor ≤ e) := by
  obtain ⟨cur, hcur, hcurB⟩ := waitReplies_bound (t * waitFactor) (t + c) (js.map (termkillFinish (some t) c)) 0 (by
    intro f hf y hy
    obtain ⟨m, _, rfl⟩ := List.mem_map.1 hf
    exact termkillFinish_le t c m y hy)
  obtain ⟨e, he, _, h2, h3, h4⟩ := waitStep_spec (t * waitFactor) cur (allFinish (js.map (memberFinish (some t) c)))
  simp only [optLe_allFinish, List.forall_mem_map] at h3 h4
  exact ⟨cur, e, by simp [roundElapsed, hcur, he], h2, by omega, h3, h4.imp_right (by omega)⟩

/-- `c ≤ t`: then the kill has returned within the wait bound `2t` of the final `waitall`, whatever the others do -/
theorem round_reaps (t c : Nat) (hct : c ≤ t) (js : List Member) (m : Member) (hm : m ∈ js) (hk : m.kill = .effective)
    (e : Nat) (he : roundElapsed (some t) c js = some e) : optLe (termFinish (some t) c m) e := by
  obtain ⟨_, e', he', _, _, _, hlow⟩ := roundElapsed_spec t c js
  cases he.symm.trans he'
  have hm' : optLe (memberFinish (some t) c m) e :=
    hlow.elim (· m hm) fun h => optLe_mono (effective_finish t c m hk) (by simp only [waitFactor] at h; omega)
  exact (optLe_optMax.1 hm').2

/-- `⟨rest ms, []⟩` also when the loop is over: both lists are empty then -/
theorem roundStep_spec (t c : Nat) (r : Run) (hc : r.clock.isSome) :
    (roundStep (some t) c r).clock.isSome ∧ (roundStep (some t) c r).g = ⟨rest r.g.members, []⟩ ∧
    (roundStep (some t) c r).rounds = r.rounds ++ if loopTest r.g then [mkRound (some t) c r.g] else [] := by
  obtain ⟨now, hnow⟩ := Option.isSome_iff_exists.1 hc
  obtain ⟨_, e, he, _⟩ := roundElapsed_spec t c (r.g.toJoin ++ leaves r.g.members)
  obtain ⟨⟨ms, tj⟩, _, _⟩ := r
  cases hnow
  by_cases hl : loopTest ⟨ms, tj⟩ = true
  · simp [roundStep, hl, mkRound, he]
  · obtain ⟨rfl, rfl⟩ : ms = [] ∧ tj = [] := by simpa [loopTest] using hl
    simp [roundStep, loopTest, rest]

theorem roundStep_next (t c : Nat) {r : Run} {k : Nat} (hc : r.clock.isSome) (hlen : r.g.members.length ≤ k + 1)
    (hac : AcyclicVia r.g.members) :
    (roundStep (some t) c r).clock.isSome ∧ (roundStep (some t) c r).g.members.length ≤ k ∧
      AcyclicVia (roundStep (some t) c r).g.members := by
  obtain ⟨h1, h2, _⟩ := roundStep_spec t c r hc
  have := rest_length_le hac
  rw [h2]
  exact ⟨h1, by show (rest _).length ≤ k; omega, acyclic_filter _ hac⟩

theorem terminateRounds_finishes (t c : Nat) : ∀ (k : Nat) (r : Run), r.clock.isSome →
    r.g.members.length ≤ k → AcyclicVia r.g.members →
    (terminateRounds (some t) c (k + 1) r).g = ⟨[], []⟩ ∧ (terminateRounds (some t) c (k + 1) r).clock.isSome
  | 0, r, hc, hlen, _ => by
    obtain ⟨h1, h2, _⟩ := roundStep_spec t c r hc
    rw [List.length_eq_zero_iff.1 (Nat.le_zero.1 hlen)] at h2
    exact ⟨h2, h1⟩
  | k + 1, r, hc, hlen, hac => by
    obtain ⟨h1, hlen', hac'⟩ := roundStep_next t c hc hlen hac
    exact terminateRounds_finishes t c k _ h1 hlen' hac'

theorem exitRounds_nil : ∀ n, exitRounds n [] = []
  | 0 => rfl
  | _ + 1 => rfl

theorem exitRounds_succ {ms : List Member} (h : ms ≠ []) (n : Nat) :
    exitRounds (n + 1) ms = leaves ms :: exitRounds n (rest ms) := by
  simp [exitRounds, h]

theorem exitRounds_subset : ∀ (n : Nat) (ms : List Member), ∀ m ∈ (exitRounds n ms).flatten, m ∈ ms
  | 0, _, m, h => by simp [exitRounds] at h
  | n + 1, ms, m, h => by
    by_cases he : ms = []
    · simp [he, exitRounds_nil] at h
    · rw [exitRounds_succ he, List.flatten_cons, List.mem_append] at h
      exact h.elim mem_of_mem_leaves fun h => mem_of_mem_rest (exitRounds_subset n _ m h)

end ExecnetVerif.Terminate
