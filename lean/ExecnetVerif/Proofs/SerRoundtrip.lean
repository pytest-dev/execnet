import ExecnetVerif.Model.SerializerSpec
import ExecnetVerif.Proofs.BytesLemmas
import ExecnetVerif.Proofs.SerBasic
namespace ExecnetVerif

theorem rdI32_be4 (n : Nat) (h : n < two31) (rest : Bytes) (k : Int → Bytes → Res) :
    rdI32 (be4 n ++ rest) k = k (n : Int) rest := by
  rw [two31_eq] at h
  unfold rdI32
  rw [rd4_be4 _ _ (by omega)]
  simp only [ofU32, h, if_true]

theorem rdI32_pack (i : Int) (h : inI32 i) (rest : Bytes) (k : Int → Bytes → Res) :
    rdI32 (packI32 i ++ rest) k = k i rest := by
  unfold rdI32 packI32
  rw [rd4_be4 _ _ (toU32_lt i)]
  simp only
  rw [ofU32_toU32 i h]

theorem rdBytes_enc (b rest : Bytes) (h : b.length < two31) (k : Bytes → Bytes → Res) :
    rdBytes (be4 b.length ++ (b ++ rest)) k = k b rest := by
  unfold rdBytes
  rw [rdI32_be4 _ h]
  have : ¬ ((b.length : Int) < 0) := by omega
  simp only [this, if_false, Int.toNat_natCast, readN_length_append]

theorem intText_length_le (i : Int) : (intText i).length ≤ numDigits i + 1 := by
  unfold intText numDigits
  split
  · rename_i h
    have : (-i).toNat = i.natAbs := by omega
    simp [this]
  · rename_i h
    have : i.toNat = i.natAbs := by omega
    simp [this]

theorem run_encInt (cfg : Cfg) (rest : Bytes) (st : List PyVal) (i : Int)
    (h : inI32 i ∨ numDigits i ≤ maxStrDigits) :
    run cfg (encInt i ++ rest) st = run cfg rest (.int i :: st) := by
  unfold encInt
  split
  · rename_i hi
    show run cfg (opINT :: (packI32 i ++ rest)) st = _
    exact run_cont (by rw [step_INT, rdI32_pack i hi])
  · rename_i hi
    have hd : numDigits i ≤ maxStrDigits := h.resolve_left hi
    have hlen : (intText i).length < two31 := by
      have := intText_length_le i
      rw [two31_eq]; unfold maxStrDigits at hd; omega
    show run cfg (opLONGINT :: ((be4 (intText i).length ++ intText i) ++ rest)) st = _
    exact run_cont (by rw [step_LONGINT, List.append_assoc, rdBytes_enc _ _ hlen, parseInt_intText i hd])

theorem orElse'_isSome (a b : Option DumpErr) : (orElse' a b).isSome = (a.isSome || b.isSome) := by
  cases a <;> rfl

/-- To take a hypothesis `dumpErrAll xs = none` (or `dumpErr v = none`) apart, first
`rw [← Option.not_isSome_iff_eq_none] at h`, then rewrite with these `isSome` equations. -/
theorem dumpErrAll_isSome (xs : List PyVal) :
    (dumpErrAll xs).isSome = xs.any fun x => (dumpErr x).isSome := by
  induction xs with
  | nil => rfl
  | cons x t ih => simp [dumpErrAll, orElse'_isSome, ih]

theorem dumpErrPairs_isSome (kvs : List (PyVal × PyVal)) :
    (dumpErrPairs kvs).isSome = kvs.any fun kv => (dumpErr kv.1).isSome || (dumpErr kv.2).isSome := by
  induction kvs with
  | nil => rfl
  | cons kv t ih => obtain ⟨k, v⟩ := kv; simp [dumpErrPairs, orElse'_isSome, ih, Bool.or_assoc]

theorem lenErr_none {n : Nat} (h : n < two31) : lenErr n = none := by simp [lenErr, h]

theorem dumpErr_of_WF (v : PyVal) : WF v → dumpErr v = none := by
  refine PyVal.rec (motive_1 := fun v => WF v → dumpErr v = none)
    (motive_2 := fun xs => WFAll xs → dumpErrAll xs = none)
    (motive_3 := fun kvs => WFPairs kvs → dumpErrPairs kvs = none)
    (motive_4 := fun kv => (WF kv.1 → dumpErr kv.1 = none) ∧ (WF kv.2 → dumpErr kv.2 = none))
    ?none ?bool ?int ?float ?complex ?bytes ?str ?badstr ?list ?tuple ?dict ?set ?frozenset
    ?channel ?foreign ?nil1 ?cons1 ?nil2 ?cons2 ?mk v
  case none | bool | float | complex => simp [dumpErr]
  case badstr | foreign | channel => simp [WF]
  case int =>
    intro i h
    simp only [WF] at h
    simp only [dumpErr]
    split
    · rfl
    · rename_i hi
      rw [if_neg (Nat.not_lt.mpr (h.resolve_left hi))]
  case bytes | str => intro b h; simp only [WF] at h; simp [dumpErr, lenErr_none h]
  case list | tuple => intro xs ih h; simp only [WF] at h; simp [dumpErr, lenErr_none h.1, ih h.2, orElse']
  case set | frozenset =>
    intro xs ih h; simp only [WF] at h; simp [dumpErr, lenErr_none h.1, ih h.2.1, orElse']
  case dict => intro kvs ih h; simp only [WF] at h; simp [dumpErr, ih h.1]
  case nil1 => intro _; rfl
  case cons1 => intro x t ih1 ih2 h; simp only [WFAll] at h; simp [dumpErrAll, ih1 h.1, ih2 h.2, orElse']
  case nil2 => intro _; rfl
  case cons2 =>
    intro kv t ih1 ih2 h
    obtain ⟨k, v⟩ := kv
    simp only [WFPairs] at h
    simp [dumpErrPairs, ih1.1 h.1, ih1.2 h.2.1, ih2 h.2.2, orElse']
  case mk => intro a b ih1 ih2; exact ⟨ih1, ih2⟩

theorem dumps_of_dumpErr (v : PyVal) (h : dumpErr v = none) :
    dumps v = .ok (dumpVersion :: (enc v ++ [opSTOP])) := by
  simp [dumps, h]

theorem encodeInternal_of_dumpErr (v : PyVal) (h : dumpErr v = none) :
    encodeInternal v = .ok (enc v ++ [opSTOP]) := by
  simp [encodeInternal, h]

theorem run_newlist (cfg : Cfg) (rest : Bytes) (st : List PyVal) (hmem : cfg.memLimit = none) (n : Nat)
    (h : n < two31) :
    run cfg (opNEWLIST :: (be4 n ++ rest)) st
      = run cfg rest (.list (List.replicate n .none) :: st) := by
  refine run_cont ?_
  rw [step_NEWLIST, rdI32_be4 _ h]
  simp [memExceeded, hmem]

theorem dictInsert_fresh (k v : PyVal) : ∀ (kvs : List (PyVal × PyVal)),
    pyMem k (kvs.map Prod.fst) = false → dictInsert k v kvs = kvs ++ [(k, v)] := by
  intro kvs
  induction kvs with
  | nil => intro _; rfl
  | cons kv t ih =>
    intro h
    obtain ⟨k', v'⟩ := kv
    simp only [List.map_cons] at h
    rw [pyMem] at h
    simp only [Bool.or_eq_false_iff] at h
    simp only [dictInsert, h.1, Bool.false_eq_true, if_false, List.cons_append]
    rw [ih h.2]

theorem dedup_fresh : ∀ (xs acc : List PyVal), fresh acc xs → dedup acc xs = acc ++ xs := by
  intro xs
  induction xs with
  | nil => intro acc _; simp [dedup]
  | cons x t ih =>
    intro acc h
    simp only [fresh] at h
    simp only [dedup, h.2.1, Bool.false_eq_true, if_false]
    rw [ih _ h.2.2]; simp

theorem fresh_hashableAll : ∀ (xs acc : List PyVal), fresh acc xs → hashableAll xs = true := by
  intro xs
  induction xs with
  | nil => intro _ _; simp [hashableAll]
  | cons x t ih =>
    intro acc h
    simp only [fresh] at h
    simp [hashableAll, h.1, ih _ h.2.2]

theorem setItem_list (rest : Bytes) (pre post : List PyVal) (v : PyVal) (st : List PyVal) :
    setItem rest (v :: .int pre.length :: .list (pre ++ .none :: post) :: st)
      = .cont rest (.list (pre ++ v :: post) :: st) := by
  have h1 : ¬ ((pre.length : Int) < 0) := by omega
  have h2 : (0 : Int) ≤ pre.length ∧ (pre.length : Int) < ((pre ++ PyVal.none :: post).length : Nat) := by
    simp only [List.length_append, List.length_cons]; omega
  simp only [setItem, listIndex, h1, if_false, h2, and_self, if_true, Int.toNat_natCast]
  -- index `pre.length` is the placeholder behind `pre`
  rw [List.set_append_right _ _ (Nat.le_refl _), Nat.sub_self, List.set_cons_zero]

theorem setItem_dict (rest : Bytes) (kvs : List (PyVal × PyVal)) (k v : PyVal) (st : List PyVal)
    (hh : hashable k = true) (hf : pyMem k (kvs.map Prod.fst) = false) :
    setItem rest (v :: k :: .dict kvs :: st) = .cont rest (.dict (kvs ++ [(k, v)]) :: st) := by
  simp only [setItem, hh, if_true, dictInsert_fresh k v kvs hf]

/-- what BUILDTUPLE / SET / FROZENSET pop when the `xs.length` topmost entries are `xs`, pushed in order -/
theorem pop_pushed (xs st : List PyVal) :
    (if (xs.length : Int) = 0 then ([], xs.reverse ++ st) else popN xs.length (xs.reverse ++ st))
      = (xs, st) := by
  cases xs with
  | nil => rfl
  | cons x t =>
    have h0 : ¬ (((x :: t).length : Nat) : Int) = 0 := by simp only [List.length_cons]; omega
    have hp : (((x :: t).length : Nat) : Int) > 0 := by omega
    rw [if_neg h0, popN, if_pos hp, Int.toNat_natCast, ← List.length_reverse, List.take_left,
      List.drop_left, List.reverse_reverse]

theorem buildColl_tuple (xs st : List PyVal) (rest : Bytes) :
    buildColl .tuple (xs.length : Int) rest (xs.reverse ++ st) = .cont rest (.tuple xs :: st) := by
  simp only [buildColl, pop_pushed]

theorem buildColl_set (xs st : List PyVal) (rest : Bytes) (hf : fresh [] xs) :
    buildColl .set (xs.length : Int) rest (xs.reverse ++ st) = .cont rest (.set xs :: st) := by
  simp only [buildColl, pop_pushed, fresh_hashableAll _ _ hf, if_true, dedup_fresh _ _ hf, List.nil_append]

theorem buildColl_frozenset (xs st : List PyVal) (rest : Bytes) (hf : fresh [] xs) :
    buildColl .frozenset (xs.length : Int) rest (xs.reverse ++ st)
      = .cont rest (.frozenset xs :: st) := by
  simp only [buildColl, pop_pushed, fresh_hashableAll _ _ hf, if_true, dedup_fresh _ _ hf, List.nil_append]

section
variable (cfg : Cfg)

/-- the induction hypothesis for one value -/
def RT (v : PyVal) : Prop :=
  WF v → ∀ (rest : Bytes) (st : List PyVal), run cfg (enc v ++ rest) st = run cfg rest (v :: st)

/-- the generalised round-trip lemma: loading the encoding of a well-formed value pushes exactly
that value and continues with the rest of the input -/
theorem run_enc (hcfg : cfg.py3str_as_py2str = false) (hmem : cfg.memLimit = none) (v : PyVal) :
    RT cfg v := by
  -- The recursion is that of `enc`: the list motives say the same of `encAll` / `encItems` (where
  -- `pre` = the items already stored in the list on the stack) and of `encPairs`.
  refine PyVal.rec (motive_1 := RT cfg)
    (motive_2 := fun xs => WFAll xs →
      (∀ (rest : Bytes) (st : List PyVal),
        run cfg (encAll xs ++ rest) st = run cfg rest (xs.reverse ++ st)) ∧
      (∀ (pre : List PyVal), pre.length + xs.length < two31 → ∀ (rest : Bytes) (st : List PyVal),
        run cfg (encItems pre.length xs ++ rest) (.list (pre ++ List.replicate xs.length .none) :: st)
          = run cfg rest (.list (pre ++ xs) :: st)))
    (motive_3 := fun kvs => WFPairs kvs → ∀ (pre : List (PyVal × PyVal)),
      fresh (pre.map Prod.fst) (kvs.map Prod.fst) → ∀ (rest : Bytes) (st : List PyVal),
        run cfg (encPairs kvs ++ rest) (.dict pre :: st) = run cfg rest (.dict (pre ++ kvs) :: st))
    (motive_4 := fun kv => RT cfg kv.1 ∧ RT cfg kv.2)
    ?none ?bool ?int ?float ?complex ?bytes ?str ?badstr ?list ?tuple ?dict ?set ?frozenset
    ?channel ?foreign ?nil1 ?cons1 ?nil2 ?cons2 ?mk v
  case none => intro _ rest st; exact run_cont (step_NONE cfg rest st)
  case bool =>
    intro b _ rest st
    cases b
    · exact run_cont (step_FALSE cfg rest st)
    · exact run_cont (step_TRUE cfg rest st)
  case int => intro i h rest st; simp only [enc, WF] at h ⊢; exact run_encInt cfg rest st i h
  case float =>
    intro b h rest st
    simp only [enc, WF, List.cons_append] at h ⊢
    exact run_cont (by rw [step_FLOAT, rd8_be8 _ _ h])
  case complex =>
    intro r i h rest st
    simp only [enc, WF, List.cons_append, List.append_assoc] at h ⊢
    exact run_cont (by rw [step_COMPLEX, rd8_be8 _ _ h.1]; simp only; rw [rd8_be8 _ _ h.2])
  case bytes =>
    intro b h rest st
    simp only [enc, WF, List.cons_append, List.append_assoc] at h ⊢
    exact run_cont (by rw [step_BYTES, rdBytes_enc _ _ h])
  case str =>
    intro s h rest st
    simp only [enc, WF, List.cons_append, List.append_assoc] at h ⊢
    exact run_cont (by rw [step_PY3STRING, rdBytes_enc _ _ h]; simp [hcfg, utf8_roundtrip])
  case badstr | foreign | channel => simp [RT, WF]
  case list =>
    intro xs ih h rest st
    simp only [WF] at h
    simp only [enc, List.cons_append, List.append_assoc]
    rw [run_newlist cfg _ st hmem xs.length h.1]
    simpa using (ih h.2).2 [] (by simpa using h.1) rest st
  case tuple =>
    intro xs ih h rest st
    simp only [WF] at h
    simp only [enc, List.append_assoc, List.cons_append]
    rw [(ih h.2).1]
    exact run_cont (by rw [step_BUILDTUPLE, rdI32_be4 _ h.1, buildColl_tuple])
  case dict =>
    intro kvs ih h rest st
    simp only [WF] at h
    simp only [enc, List.cons_append]
    rw [run_cont (step_NEWDICT cfg _ st)]
    simpa using ih h.1 [] (by simpa using h.2) rest st
  case set =>
    intro xs ih h rest st
    simp only [WF] at h
    simp only [enc, List.append_assoc, List.cons_append]
    rw [(ih h.2.1).1]
    exact run_cont (by rw [step_SET, rdI32_be4 _ h.1, buildColl_set _ _ _ h.2.2])
  case frozenset =>
    intro xs ih h rest st
    simp only [WF] at h
    simp only [enc, List.append_assoc, List.cons_append]
    rw [(ih h.2.1).1]
    exact run_cont (by rw [step_FROZENSET, rdI32_be4 _ h.1, buildColl_frozenset _ _ _ h.2.2])
  case nil1 => intro _; exact ⟨fun _ _ => by simp [encAll], fun _ _ _ _ => by simp [encItems]⟩
  case cons1 =>
    intro x t ihx iht hW
    simp only [WFAll] at hW
    refine ⟨fun rest st => ?_, fun pre hlen rest st => ?_⟩
    · simp only [encAll, List.append_assoc]
      rw [ihx hW.1, (iht hW.2).1]
      simp
    · simp only [List.length_cons] at hlen
      simp only [encItems, List.append_assoc, List.length_cons, List.replicate_succ]
      have hi : inI32 (pre.length : Int) := by
        unfold inI32; rw [two31_eq] at hlen; omega
      rw [run_encInt cfg _ _ _ (Or.inl hi), ihx hW.1]
      simp only [List.cons_append]
      rw [run_cont (show step cfg opSETITEM _ _ = _ from by
        rw [step_SETITEM]; exact setItem_list _ pre _ x st)]
      have := (iht hW.2).2 (pre ++ [x])
        (by simp only [List.length_append, List.length_singleton]; omega) rest st
      simpa only [List.length_append, List.length_singleton, List.append_assoc, List.singleton_append]
        using this
  case nil2 => intro _ _ _ _ _; simp [encPairs]
  case cons2 =>
    intro kv t ihkv iht hW pre hF rest st
    obtain ⟨k, v⟩ := kv
    simp only [WFPairs] at hW
    simp only [List.map_cons, fresh] at hF
    simp only [encPairs, List.append_assoc]
    rw [ihkv.1 hW.1, ihkv.2 hW.2.1]
    simp only [List.cons_append]
    rw [run_cont (show step cfg opSETITEM _ _ = _ from by
      rw [step_SETITEM]; exact setItem_dict _ pre k v st hF.1 hF.2.1)]
    simpa only [List.append_assoc, List.singleton_append] using
      iht hW.2.2 (pre ++ [(k, v)]) (by simpa using hF.2.2) rest st
  case mk => intro fst snd ih1 ih2; exact ⟨ih1, ih2⟩

end

theorem run_dump (cfg : Cfg) (hcfg : cfg.py3str_as_py2str = false) (hmem : cfg.memLimit = none)
    (v : PyVal) (h : WF v) : run cfg (enc v ++ [opSTOP]) [] = .ok v := by
  rw [run_enc cfg hcfg hmem v h, run_stop (step_STOP cfg [] [v])]
  rfl

theorem loads_dump (cfg : Cfg) (hcfg : cfg.py3str_as_py2str = false) (hmem : cfg.memLimit = none)
    (v : PyVal) (h : WF v) : loads cfg (dumpVersion :: (enc v ++ [opSTOP])) = .ok v := by
  rw [loads_dumpVersion]
  exact run_dump cfg hcfg hmem v h

/-- no prefix: `run` on all of `enc v` runs out of input (`run_enc` with nothing behind it), hence so
does `run` on every prefix of it, whatever the stack -/
theorem run_enc_prefix (cfg : Cfg) (hcfg : cfg.py3str_as_py2str = false) (hmem : cfg.memLimit = none)
    (v : PyVal) (h : WF v) (p : Bytes) (hp : p <+: enc v) (st : List PyVal) :
    run cfg p st = .error .eof :=
  run_eof_of_prefix hp (by simpa [run_nil] using run_enc cfg hcfg hmem v h [] st)

end ExecnetVerif
