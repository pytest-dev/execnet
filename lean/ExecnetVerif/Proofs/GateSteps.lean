/-
Every step of the gate model preserves `GInv`.  The state after a step is a structure literal, so `{ h with .. }`
carries over every clause that reads no written field; the clauses after `with` are the ones the step touches.
`Progress`: which thread states have an enabled step of their own.
-/
import ExecnetVerif.Proofs.GateInv
namespace ExecnetVerif.Gate

/-- the main thread takes exec `k` one step on after the body has begun -/
inductive MainStep (s : State) (k : Nat) : MPhase → EPhase → Bool → Prop
  | finish (o : Outcome) : s.m = .running k → MainStep s k (.bodyDone k o) (.bodyDone o) s.complete
  | close (o : Outcome) : s.m = .bodyDone k o → MainStep s k (.closedSt k o) (.closed o) s.complete
  | set (o : Outcome) : s.m = .closedSt k o → MainStep s k .idle (.finished o) true

attribute [grind cases] MainStep

theorem GInv.mainStep {c : Config} {s : State} (h : GInv c s) {k : Nat} {m' : MPhase} {v : EPhase} {cpl : Bool}
    (hq : MainStep s k m' v cpl) : GInv c { s with m := m', ph := upd s.ph k v, complete := cpl } := by
  have hbusy : s.m ≠ .idle := by grind
  -- the phase of `k` before the step
  have h1 := h.phRun k; have h2 := h.phDone k; have h3 := h.phClosed k
  have hcpl := h.mBusyC hbusy
  exact
  { h with
    mBusyC := by grind
    qC := fun hq' => absurd (h.queue_nil_of_busy hbusy) hq'
    rWokeI := by grind [h.rWokeI]
    rClearedI := by grind [h.rClearedI]
    cFalse := by grind
    phRun := by grind [h.phRun]
    phDone := by grind [h.phDone, h.phRun]
    phClosed := by grind [h.phClosed, h.phDone]
    phQ := by grind [h.phQ]
    phGate := by grind [h.phGate]
    phSent := by grind [h.phSent]
    phUnsent := by grind [h.phUnsent]
    obs := fun j => by have := h.obs j; grind [isClosed]
    mono1 := by grind [h.mono1]
    mono2 := by grind [h.mono2, pastGate]
    mono3 := by grind [h.mono3, begun]
    staIff := by grind [h.staIff, begun]
    nfd := by grind [h.nfd] }

theorem ginv_step {c : Config} {s s' : State} {a : Action} (hc : c.old = false) (h : GInv c s)
    (hs : step c s a = some s') : GInv c s' := by
  cases a <;> simp only [step] at hs
  case submit =>
    cases hs
    have hu := (h.phUnsent s.submitted).2 (Nat.le_refl _)
    exact
    { h with
      phRun := by grind [h.phRun]
      phDone := by grind [h.phDone]
      phClosed := by grind [h.phClosed]
      phQ := by grind [h.phQ]
      phGate := by grind [h.phGate]
      phSent := by grind [h.phSent]
      phUnsent := by grind [h.phUnsent]
      obs := fun j => by have := h.obs j; grind [isClosed]
      rqSorted := by
        -- everything in `rq` has been sent, so it is below `submitted`
        rw [List.pairwise_append]
        refine ⟨h.rqSorted, List.pairwise_singleton _ _, fun a ha b hb => ?_⟩
        have h1 := (h.phSent a).2 ha
        have h2 := h.phUnsent a
        have hb' : b = s.submitted := by simpa using hb
        subst hb'
        rcases Nat.lt_or_ge a s.submitted with hlt | hge
        · exact hlt
        · rw [h2.2 hge] at h1; cases h1
      mono1 := fun a b hab => by have := h.mono1 a b hab; have := h.phUnsent a; have := h.phUnsent b; grind
      mono2 := fun a b hab => by have := h.mono2 a b hab; have := h.phUnsent b; grind [pastGate]
      mono3 := fun a b hab => by have := h.mono3 a b hab; have := h.phUnsent b; grind [begun]
      staIff := by grind [h.staIff, begun]
      seqC := fun k hk j hj => by have := h.seqC k; have := @range_all s.closeObs s.submitted; grind
      nfd := fun ht j hj => by have := h.nfd ht j; have := h.seqC j; grind }
  case observe k =>
    split at hs <;> cases hs
    next hk =>
      exact
      { h with
        obs := by grind [h.obs]
        seqC := fun j hj i hi => by have := h.seqC j hj i hi; grind }
  case rTake =>
    split at hs
    next k rest hr hq =>
      cases hs
      have hsent := (h.phSent k).2 (by rw [hq]; exact List.mem_cons_self)
      have hsorted := h.rqSorted; rw [hq, List.pairwise_cons] at hsorted
      exact
      { h with
        rWokeI := nofun
        rClearedI := nofun
        cFalse := fun hc hm hq' => by obtain ⟨j, hj⟩ := h.cFalse hc hm hq'; rw [hr] at hj; cases hj
        phRun := by grind [h.phRun]
        phDone := by grind [h.phDone]
        phClosed := by grind [h.phClosed]
        phQ := by grind [h.phQ]
        phGate := by grind [h.phGate]
        phSent := by grind [h.phSent]
        phUnsent := by grind [h.phUnsent]
        obs := fun j => by have := h.obs j; grind [isClosed]
        rqSorted := hsorted.2
        -- `k` was the head of the sorted `rq`: every other sent exec is after it
        mono1 := fun a b hab => by
          have := h.mono1 a b hab; have := h.mono1 k b; have := h.phSent b; have := h.phSent a; grind
        mono2 := fun a b hab => by
          have := h.mono2 a b hab; have := h.mono1 a k; have := h.mono2 k b; have := h.phSent a
          grind [pastGate]
        mono3 := by grind [h.mono3, begun]
        staIff := by grind [h.staIff, begun]
        nfd := fun ht j hj => by have := h.nfd ht j hj; grind }
    · cases hs
  case rWake =>
    split at hs
    next k hr =>
      split at hs <;> cases hs
      next hcpl =>
        exact
        { h with
          rWokeI := fun _ _ => hcpl
          rClearedI := nofun
          cFalse := by grind
          phGate := fun j => by have := h.phGate j; grind }
    · cases hs
  case rClear =>
    split at hs <;> cases hs
    next k hr =>
      have hcpl := h.rWokeI k hr
      obtain ⟨hm, hq⟩ := h.idle_of_complete hcpl
      exact
      { h with
        mBusyC := fun _ => rfl
        qC := fun hq' => absurd hq hq'
        rWokeI := nofun
        rClearedI := fun _ _ => ⟨rfl, hm, hq⟩
        cFalse := fun _ _ _ => ⟨k, rfl⟩
        phGate := fun j => by have := h.phGate j; grind }
  case rTimeout =>
    split at hs
    next k hr =>
      split at hs <;> cases hs
      next hcond =>
        have hgate : s.ph k = .atGate := (h.phGate k).2 (.inl hr)
        exact
        { h with
          rWokeI := nofun
          rClearedI := nofun
          cFalse := fun hc hm hq => by obtain ⟨j, hj⟩ := h.cFalse hc hm hq; rw [hr] at hj; cases hj
          phRun := by grind [h.phRun]
          phDone := by grind [h.phDone]
          phClosed := by grind [h.phClosed]
          phQ := by grind [h.phQ]
          phGate := by grind [h.phGate]
          phSent := by grind [h.phSent]
          phUnsent := by grind [h.phUnsent]
          obs := by grind [h.obs, isClosed]
          mono1 := by grind [h.mono1]
          mono2 := by grind [h.mono2, pastGate]
          mono3 := by grind [h.mono3, begun]
          staIff := by grind [h.staIff, begun]
          nfd := fun ht j hj => by
            -- the time-out never hits a sequentially submitted exec: everything before it has been observed
            -- closed, so the main thread can only be in its epilogue, where `Timely` forbids the expiry
            by_cases hjk : j = k
            · subst hjk
              exfalso
              have hep := hcond.2 ht
              have hall := h.seqC j hj
              have key : ∀ q, pastGate (s.ph q) = true → isClosed (s.ph q) = false → False := by
                intro q hq hnc
                have hne : q ≠ j := by intro h; rw [h, hgate] at hq; simp [pastGate] at hq
                rcases Nat.lt_or_gt_of_ne hne with hlt | hgt
                · have := h.obs q (hall q hlt); simp [hnc] at this
                · exact (h.mono2 j q hgt hq).2 hgate
              cases hm : s.m with
              | idle =>
                cases hq : s.queue with
                | nil => obtain ⟨k', hk'⟩ := h.cFalse hcond.1 hm hq; simp [hr] at hk'
                | cons q rest =>
                  have : s.ph q = .queued := (h.phQ q).2 (by simp [hq])
                  exact key q (by simp [this, pastGate]) (by simp [this, isClosed])
              | running q =>
                have : s.ph q = .running := (h.phRun q).2 hm
                exact key q (by simp [this, pastGate]) (by simp [this, isClosed])
              | bodyDone q o => simp [hm, inEpilogue] at hep
              | closedSt q o => simp [hm, inEpilogue] at hep
            · simp [upd, hjk]; exact h.nfd ht j hj }
    · cases hs
  case rSpawn =>
    split at hs <;> cases hs
    next k hr =>
      obtain ⟨hcpl, hm, hq⟩ := h.rClearedI k hr
      have hgate : s.ph k = .atGate := (h.phGate k).2 (.inr (.inr hr))
      exact
      { h with
        qC := fun _ => ⟨hcpl, hm⟩
        qLen := by simp [hq]
        rWokeI := nofun
        rClearedI := nofun
        cFalse := by simp
        phRun := by grind [h.phRun]
        phDone := by grind [h.phDone]
        phClosed := by grind [h.phClosed]
        phQ := by grind [h.phQ]
        phGate := by grind [h.phGate]
        phSent := by grind [h.phSent]
        phUnsent := by grind [h.phUnsent]
        obs := fun j => by have := h.obs j; grind [isClosed]
        mono1 := by grind [h.mono1]
        -- `k` was at the gate: nothing before it is still sent or at the gate, nothing after it has begun
        mono2 := fun a b hab => by
          have := h.mono2 a b hab; have := h.mono1 a k; have := h.phGate a; grind [pastGate]
        mono3 := fun a b hab => by have := h.mono3 a b hab; have := h.mono2 k b; grind [begun, begun_pastGate]
        staIff := by grind [h.staIff, begun]
        nfd := fun ht j hj => by have := h.nfd ht j hj; grind }
  case mStart =>
    split at hs
    next k rest hm hq =>
      cases hs
      have hk := (h.phQ k).2 (by rw [hq]; exact List.mem_cons_self)
      have hlen := h.qLen; rw [hq] at hlen
      obtain rfl : rest = [] := by cases rest <;> simp_all
      have hqc := h.qC (by rw [hq]; simp)
      exact
      { h with
        mBusyC := fun _ => hqc.1
        qC := fun hn => absurd rfl hn
        qLen := Nat.zero_le _
        rClearedI := by grind [h.rClearedI]
        cFalse := nofun
        phRun := by grind [h.phRun]
        phDone := by grind [h.phDone]
        phClosed := by grind [h.phClosed]
        phQ := by grind [h.phQ]
        phGate := by grind [h.phGate]
        phSent := by grind [h.phSent]
        phUnsent := by grind [h.phUnsent]
        obs := fun j => by have := h.obs j; grind [isClosed]
        mono1 := by grind [h.mono1]
        mono2 := by grind [h.mono2, pastGate]
        mono3 := fun a b hab => by have := h.mono3 a b hab; have := h.phQ a; grind [begun]
        staIff := by grind [h.staIff, begun]
        staSorted := by
          -- every exec begun so far is before `k`: a later one would have begun with `k` still queued
          rw [List.pairwise_append]
          refine ⟨h.staSorted, List.pairwise_singleton _ _, fun a ha b hb => ?_⟩
          obtain rfl : b = k := by simpa using hb
          have h1 := (h.staIff a).1 ha
          rcases Nat.lt_trichotomy a b with hlt | heq | hgt
          · exact hlt
          · subst heq; rw [hk] at h1; cases h1
          · exact absurd hk (h.mono3 b a hgt h1)
        nfd := fun ht j hj => by have := h.nfd ht j hj; grind }
    · cases hs
  case mFinish o =>
    split at hs <;> cases hs
    next k hm => exact h.mainStep (.finish o hm)
  case mClose =>
    split at hs <;> cases hs
    next k o hm => exact h.mainStep (.close o hm)
  case mSet =>
    simp only [hc, Bool.false_eq_true, false_and, ↓reduceIte] at hs
    split at hs <;> cases hs
    next k o hm => exact h.mainStep (.set o hm)

theorem ginv_reachable {c : Config} {s : State} (hc : c.old = false) (h : Reachable c s) : GInv c s := by
  induction h with
  | init => exact ginv_init c
  | step _ hs ih => exact ginv_step hc ih hs

/-- a step of the worker's own threads other than the expiry of the time-out is enabled -/
def Progress (c : Config) (s : State) : Prop :=
  ∃ a, a ≠ .rTimeout ∧ a ≠ .submit ∧ (∀ j, a ≠ .observe j) ∧ (step c s a).isSome = true

section
variable {c : Config} {s : State}

/-- a running body may return at once: that is one of the schedules -/
theorem progress_main (hm : s.m ≠ .idle) : Progress c s := by
  cases h : s.m with
  | idle => exact absurd h hm
  | running q => exact ⟨.mFinish .ret, nofun, nofun, nofun, by simp [step, h]⟩
  | bodyDone q o => exact ⟨.mClose, nofun, nofun, nofun, by simp [step, h]⟩
  | closedSt q o => exact ⟨.mSet, nofun, nofun, nofun, by simp only [step, h]; split <;> simp⟩

theorem progress_queue (hm : s.m = .idle) (hq : s.queue ≠ []) : Progress c s := by
  cases h : s.queue with
  | nil => exact absurd h hq
  | cons q rest => exact ⟨.mStart, nofun, nofun, nofun, by simp [step, hm, h]⟩

theorem progress_recv (hi : s.r = .idle → s.rq ≠ []) (hw : ∀ j, s.r = .waiting j → s.complete = true) :
    Progress c s := by
  cases hr : s.r with
  | idle =>
    cases h : s.rq with
    | nil => exact absurd h (hi hr)
    | cons q rest => exact ⟨.rTake, nofun, nofun, nofun, by simp [step, hr, h]⟩
  | waiting j => exact ⟨.rWake, nofun, nofun, nofun, by simp [step, hr, hw j hr]⟩
  | woke j => exact ⟨.rClear, nofun, nofun, nofun, by simp [step, hr]⟩
  | cleared j => exact ⟨.rSpawn, nofun, nofun, nofun, by simp [step, hr]⟩

end

end ExecnetVerif.Gate
