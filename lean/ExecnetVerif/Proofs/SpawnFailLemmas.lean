/-
Invariant of `Model/SpawnFail.lean` for the guarded `start` and its preservation; the unguarded variant keeps a reply
nobody will ever finish.
-/
import ExecnetVerif.Model.SpawnFail
namespace ExecnetVerif.SpawnFail

structure Inv (p : P) : Prop where
  /-- `_running` counts accepted calls only -/
  counted : ∀ r, r ∈ p.running → r ∈ p.accepted
  /-- ... that have not come to their end -/
  unfinished : ∀ r, r ∈ p.running → r ∉ p.finished
  nodup : p.running.Nodup
  rbound : ∀ r, r ∈ p.running → r < p.next
  fbound : ∀ r, r ∈ p.finished → r < p.next

theorem inv_init : Inv init := by
  constructor <;> simp [init]

theorem inv_step {p : P} (h : Inv p) (op : Op) : Inv (step good p op).2 := by
  cases op with
  | spawn ok =>
    simp only [step]
    split
    · exact h
    · cases ok with
      | true =>
        -- the new reply `p.next` is above everything counted or finished so far
        exact {
          counted := by have := h.counted; grind
          unfinished := by have := h.unfinished; have := h.fbound; grind
          nodup := by have := h.nodup; have := h.rbound; grind
          rbound := by have := h.rbound; grind
          fbound := fun r hr => Nat.lt_succ_of_lt (h.fbound r hr) }
      | false =>
        simp only [good, if_true, List.erase_cons_head]
        exact { h with
          rbound := fun r hr => Nat.lt_succ_of_lt (h.rbound r hr)
          fbound := fun r hr => Nat.lt_succ_of_lt (h.fbound r hr) }
  | finish r =>
    simp only [step]
    split
    · rename_i hr
      exact {
        counted := fun r' hr' => h.counted r' (List.mem_of_mem_erase hr')
        unfinished := by have := h.unfinished; have := h.nodup; grind
        nodup := h.nodup.erase r
        rbound := fun r' hr' => h.rbound r' (List.mem_of_mem_erase hr')
        fbound := by have := h.fbound; have := h.rbound; grind }
    · exact h
  | shutdown => exact { h with }

theorem inv_run (p : P) (h : Inv p) (ops : List Op) : Inv (run good p ops).2 := by
  induction ops generalizing p with
  | nil => simpa [run] using h
  | cons op ops ih =>
    simp only [run]
    exact ih _ (inv_step h op)

/-- counted, never accepted (`finish` needs both), older than every reply to come -/
def Ghost (p : P) (g : Nat) : Prop := g ∈ p.running ∧ g ∉ p.accepted ∧ g < p.next

theorem ghost_step {p : P} {g : Nat} (h : Ghost p g) (op : Op) : Ghost (step pinned p op).2 g := by
  obtain ⟨hg, hn, hb⟩ := h
  cases op with
  | spawn ok =>
    simp only [step]
    split
    · exact ⟨hg, hn, hb⟩
    · cases ok <;> simp [Ghost, pinned, hg, hn] <;> omega
  | finish r =>
    simp only [step]
    split
    · rename_i hr
      exact ⟨(List.mem_erase_of_ne (a := g) (b := r) fun e => hn (e ▸ hr.2)).mpr hg, hn, hb⟩
    · exact ⟨hg, hn, hb⟩
  | shutdown => exact ⟨hg, hn, hb⟩

/-- the unguarded `start`: a reply that is counted but was never accepted stays counted whatever happens next -/
theorem ghost_stays (p : P) (g : Nat) (hg : g ∈ p.running) (hn : g ∉ p.accepted) (hb : g < p.next) (ops : List Op) :
    g ∈ (run pinned p ops).2.running := by
  suffices ∀ p, Ghost p g → Ghost (run pinned p ops).2 g from (this p ⟨hg, hn, hb⟩).1
  induction ops with
  | nil => exact fun _ h => h
  | cons op ops ih => exact fun p h => ih _ (ghost_step h op)

end ExecnetVerif.SpawnFail
