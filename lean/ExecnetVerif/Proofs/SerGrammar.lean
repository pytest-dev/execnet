import ExecnetVerif.Proofs.SerBasic
namespace ExecnetVerif

mutual
/-- built only from the supported builtin types: no channel object, no foreign object -/
def clean : PyVal → Bool
  | .none | .bool _ | .int _ | .float _ | .complex _ _ | .bytes _ | .str _ => true
  | .badstr | .foreign | .channel _ => false
  | .list xs | .tuple xs | .set xs | .frozenset xs => cleanAll xs
  | .dict kvs => cleanPairs kvs
def cleanAll : List PyVal → Bool
  | [] => true
  | x :: xs => clean x && cleanAll xs
def cleanPairs : List (PyVal × PyVal) → Bool
  | [] => true
  | (k, v) :: rest => clean k && clean v && cleanPairs rest
end

theorem cleanAll_iff (xs : List PyVal) : cleanAll xs = true ↔ ∀ x ∈ xs, clean x = true := by
  induction xs with
  | nil => simp [cleanAll]
  | cons x t ih => simp [cleanAll, ih]

theorem cleanPairs_iff (kvs : List (PyVal × PyVal)) :
    cleanPairs kvs = true ↔ ∀ kv ∈ kvs, clean kv.1 = true ∧ clean kv.2 = true := by
  induction kvs with
  | nil => simp [cleanPairs]
  | cons kv t ih => obtain ⟨k, v⟩ := kv; simp [cleanPairs, ih, and_assoc]

def CleanStack (st : List PyVal) : Prop := ∀ x ∈ st, clean x = true

theorem CleanStack.cons {v : PyVal} {st : List PyVal} (hv : clean v = true) (hs : CleanStack st) :
    CleanStack (v :: st) :=
  List.forall_mem_cons.2 ⟨hv, hs⟩

/-! `dedup`, `dictInsert` and `popN` make nothing new: what holds of all they are given holds of all
they return. -/

theorem dedup_forall {P : PyVal → Prop} : ∀ (xs acc : List PyVal), (∀ x ∈ acc, P x) → (∀ x ∈ xs, P x) →
    ∀ x ∈ dedup acc xs, P x := by
  intro xs
  induction xs with
  | nil => intro acc ha _; simpa [dedup] using ha
  | cons y t ih =>
    intro acc ha hx
    simp only [dedup]
    split
    · exact ih acc ha (fun x h => hx x (by simp [h]))
    · refine ih (acc ++ [y]) ?_ (fun x h => hx x (by simp [h]))
      intro x h; simp at h; rcases h with h | rfl
      · exact ha x h
      · exact hx _ (by simp)

theorem dictInsert_forall {P : PyVal → Prop} (k v : PyVal) (hk : P k) (hv : P v) :
    ∀ (kvs : List (PyVal × PyVal)), (∀ kv ∈ kvs, P kv.1 ∧ P kv.2) →
    ∀ kv ∈ dictInsert k v kvs, P kv.1 ∧ P kv.2 := by
  intro kvs
  induction kvs with
  | nil => intro _ kv h; simp [dictInsert] at h; subst h; exact ⟨hk, hv⟩
  | cons p t ih =>
    intro hall kv h
    obtain ⟨k', v'⟩ := p
    simp only [dictInsert] at h
    split at h
    · simp at h; rcases h with rfl | h
      · exact ⟨(hall (k', v') (by simp)).1, hv⟩
      · exact hall kv (by simp [h])
    · simp at h; rcases h with rfl | h
      · exact hall (k', v') (by simp)
      · exact ih (fun q hq => hall q (by simp [hq])) kv h

theorem popN_subset {n : Int} {st : List PyVal} :
    (∀ x ∈ (popN n st).1, x ∈ st) ∧ (∀ x ∈ (popN n st).2, x ∈ st) := by
  unfold popN
  split
  · refine ⟨fun x hx => ?_, fun x hx => List.mem_of_mem_drop hx⟩
    simp at hx; exact List.mem_of_mem_take hx
  · refine ⟨fun x hx => ?_, fun x hx => ?_⟩
    · have := List.mem_of_mem_drop hx; simpa using this
    · simp at hx; have := List.mem_of_mem_take hx; simpa using this

theorem buildColl_clean {c n rest st r s} (h : buildColl c n rest st = .cont r s) (hs : CleanStack st) :
    CleanStack s := by
  unfold buildColl at h
  have hp : (∀ x ∈ (if n = 0 then (([] : List PyVal), st) else popN n st).1, clean x = true) ∧
      CleanStack (if n = 0 then (([] : List PyVal), st) else popN n st).2 := by
    split
    · exact ⟨by simp, hs⟩
    · exact ⟨fun x hx => hs x (popN_subset.1 x hx), fun x hx => hs x (popN_subset.2 x hx)⟩
  generalize (if n = 0 then ([], st) else popN n st) = p at h hp
  cases c <;> dsimp only at h
  case tuple =>
    cases h
    exact .cons (by simp only [clean]; exact (cleanAll_iff _).2 hp.1) hp.2
  -- set and frozenset alike: the items must be hashable, duplicates go
  all_goals
    split at h
    · cases h
      exact .cons (by simp only [clean]; exact (cleanAll_iff _).2 (dedup_forall _ _ (by simp) hp.1)) hp.2
    · cases h

theorem setItem_clean {rest st r s} (h : setItem rest st = .cont r s) (hs : CleanStack st) :
    CleanStack s := by
  revert h
  fun_cases setItem rest st with
  | case1 v k below xs j hj =>
    intro h; cases h
    refine .cons ?_ fun x hx => hs x (by simp [hx])
    have ht : clean (.list xs) = true := hs _ (by simp)
    simp only [clean, cleanAll_iff] at ht ⊢
    intro x hx
    rcases List.mem_or_eq_of_mem_set hx with h1 | rfl
    · exact ht x h1
    · exact hs _ (by simp)
  | case3 v k below kvs hk =>
    intro h; cases h
    refine .cons ?_ fun x hx => hs x (by simp [hx])
    have ht : clean (.dict kvs) = true := hs _ (by simp)
    simp only [clean, cleanPairs_iff] at ht ⊢
    exact dictInsert_forall (P := (clean · = true)) k v (hs _ (by simp))
      (hs _ (by simp)) kvs ht
  | case2 | case4 | case5 | case6 => intro h; cases h

theorem Pushed.clean {cfg : Cfg} {v : PyVal} (hf : cfg.hasFactory = false) (h : Pushed cfg v) :
    clean v = true := by
  cases h with
  | newlist n =>
    show cleanAll _ = true
    rw [cleanAll_iff]
    intro x hx
    rw [(List.mem_replicate.mp hx).2]
    rfl
  | channel id h => rw [hf] at h; cases h
  | _ => rfl

theorem step_clean {cfg : Cfg} {op rest st r s} (hf : cfg.hasFactory = false)
    (h : step cfg op rest st = .cont r s) (hs : CleanStack st) : CleanStack s := by
  revert h
  apply step_elim (P := fun x => x = .cont r s → CleanStack s)
  case cont =>
    intro _ _ _ hst h
    cases h
    cases hst with
    | push hv => exact .cons (hv.clean hf) hs
    | coll h => exact buildColl_clean h hs
    | setItem h => exact setItem_clean h hs
  all_goals simp

theorem run_clean (cfg : Cfg) (hf : cfg.hasFactory = false) (input : Bytes) (st : List PyVal)
    (hs : CleanStack st) (v : PyVal) (h : run cfg input st = .ok v) : clean v = true := by
  fun_induction run cfg input st with
  | case1 st => cases h
  | case2 st op rest r s hst ih => exact ih (step_clean hf hst hs) h
  | case3 st op rest s hst =>
    cases step_stop_stack hst
    unfold finish at h
    split at h
    · cases h; exact hs _ (by simp)
    · cases h
  | case4 st op rest e hst => cases h

end ExecnetVerif
