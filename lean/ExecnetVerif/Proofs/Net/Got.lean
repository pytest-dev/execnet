/-
G4 `GotInv`: what the user got plus what is still queued is what the receiver kept (a sublist of it once the
id has been re-opened or its callback raised).  Alone it is not inductive (`GotInv_not_inductive`, last): a
DATA frame handled in callback mode appends to `got` *behind* the queued items, so `GotInvAux` (a registered
callback means no queued items) is needed.  Then what G4 gives `receive`: an error comes only after every kept
item (C07); past the end of the channel no item comes again (C03; `PastEnd`, a second predicate on the cell).
-/
import ExecnetVerif.Proofs.Net.Shape
import ExecnetVerif.Proofs.Net.Wire
namespace ExecnetVerif.Net

def GotInvAux (st : State) : Prop :=
  ∀ (p : Side) (id : Nat), (st.side p).cbs id ≠ none → queueItems ((st.side p).chans id).queue = []

def GotAll (st : State) : Prop := GotInvAux st ∧ GotInv st

theorem qItems_append (a b : List QItem) : qItems (a ++ b) = qItems a ++ qItems b := by
  induction a with
  | nil => rfl
  | cons x t ih => cases x <;> simp [qItems, ih]

@[simp] theorem qItems_map_item (items : List Item) : qItems (items.map QItem.item) = items := by
  induction items with
  | nil => rfl
  | cons x t ih => simp [qItems, ih]

@[simp] theorem qItems_replicate_end (k : Nat) : qItems (List.replicate k QItem.endmarker) = [] := by
  induction k with
  | zero => rfl
  | succ k ih => simp [List.replicate_succ, qItems, ih]

@[simp] theorem queueItems_none : queueItems none = [] := rfl
@[simp] theorem queueItems_some (q : List QItem) : queueItems (some q) = qItems q := rfl

@[simp] theorem queueItems_pushEnd (q : Option (List QItem)) :
    queueItems (pushEnd q) = queueItems q := by
  cases q <;> simp [pushEnd, qItems_append, qItems]

theorem QShape.qItems_head_end {q : List QItem} {rc : Bool} (h : QShape (.endmarker :: q) rc) :
    qItems (.endmarker :: q) = [] := by
  obtain ⟨_, k, rfl⟩ := h.head_end
  simp [qItems]

theorem drain_sublist (fails : Item → Bool) (q : List QItem) :
    List.Sublist (drain fails q).1 (qItems q) := by
  induction q with
  | nil => simp [drain, qItems]
  | cons a t ih =>
    cases a with
    | endmarker => simp [drain]
    | item v =>
      simp only [drain, qItems]
      split
      · simp
      · simpa using ih

theorem drain_eq_of_shape (fails : Item → Bool) {q : List QItem} {rc : Bool} (h : QShape q rc)
    (hr : (drain fails q).2.1 = false) : (drain fails q).1 = qItems q := by
  induction q with
  | nil => simp [drain, qItems]
  | cons a t ih =>
    cases a with
    | endmarker => rw [h.qItems_head_end]; simp [drain]
    | item v =>
      simp only [drain, qItems] at hr ⊢
      split
      · next hf => simp [hf] at hr
      · next hf =>
        simp only [hf] at hr
        simpa using ih h.tail_item hr

/-- `GotInv` and `GotInvAux` for one cell -/
def GotC (c : Cell) : Prop :=
  List.Sublist (c.got ++ queueItems c.chan.queue) c.kept ∧
  (c.broken = false → c.got ++ queueItems c.chan.queue = c.kept) ∧
  (c.cb ≠ none → queueItems c.chan.queue = [])

theorem GotAll_iff (st : State) : GotAll st ↔ ∀ p i, GotC ((st.side p).cell i) :=
  ⟨fun h p i => ⟨(h.2 p i).1, (h.2 p i).2, h.1 p i⟩,
   fun h => ⟨fun p i => (h p i).2.2, fun p i => ⟨(h p i).1, (h p i).2.1⟩⟩⟩

theorem GotC.of_sublist {c d : Cell} (h : GotC c)
    (hs : List.Sublist (d.got ++ queueItems d.chan.queue) (c.got ++ queueItems c.chan.queue))
    (hk : d.kept = c.kept)
    (hb : d.broken = false → c.broken = false ∧
      d.got ++ queueItems d.chan.queue = c.got ++ queueItems c.chan.queue)
    (hc : d.cb ≠ none → queueItems d.chan.queue = []) : GotC d :=
  ⟨hk ▸ hs.trans h.1, fun hb' => by rw [hk, (hb hb').2]; exact h.2.1 (hb hb').1, hc⟩

theorem GotC.mono {c d : Cell} (h : GotC c) (hg : d.got = c.got) (hk : d.kept = c.kept)
    (hq : List.Sublist (queueItems d.chan.queue) (queueItems c.chan.queue))
    (hb : d.broken = false → c.broken = false ∧ queueItems d.chan.queue = queueItems c.chan.queue)
    (hc : d.cb ≠ none → c.cb ≠ none) : GotC d :=
  h.of_sublist (hg ▸ hq.append_left _) hk (fun hb' => ⟨(hb hb').1, by rw [hg, (hb hb').2]⟩)
    (fun hc' => List.sublist_nil.mp (h.2.2 (hc hc') ▸ hq))

theorem GotC.same {c d : Cell} (h : GotC c) (hg : d.got = c.got) (hk : d.kept = c.kept)
    (hq : queueItems d.chan.queue = queueItems c.chan.queue) (hb : d.broken = c.broken)
    (hc : d.cb ≠ none → c.cb ≠ none) : GotC d :=
  h.mono hg hk (hq ▸ List.Sublist.refl _) (fun hb' => ⟨hb ▸ hb', hq⟩) hc

/-- a fresh record has an empty queue; if the id is not marked `broken` the old record was never
created, so its queue was empty too -/
theorem GotC.create {c : Cell} (h : GotC c) (hs : c.chan.Shape) : GotC c.create := by
  cases hr : c.chan.registered
  · have hq : queueItems c.create.chan.queue = [] := by
      show queueItems (createChan c.chan).queue = []; rw [createChan_of_not_registered hr]; rfl
    refine h.mono rfl rfl (hq ▸ List.nil_sublist _) (fun hb => ?_) id
    have hb : (c.broken || ((c.chan.created || c.ended) && !c.chan.registered)) = false := hb
    simp only [hr, Bool.not_false, Bool.and_true, Bool.or_eq_false_iff] at hb
    exact ⟨hb.1, by rw [hq, (hs.of_not_created hb.2.1).1]; rfl⟩
  · rw [Cell.create_of_registered hr]; exact h

theorem queueItems_closedRec (c : Chan) (err : Option Nat) (so : Bool) :
    queueItems (closedRec c err so).queue = queueItems c.queue := by
  unfold closedRec; split
  · exact queueItems_pushEnd _
  · rfl
theorem queueItems_eofRec (c : Chan) : queueItems (eofRec c).queue = queueItems c.queue := by
  unfold eofRec; split
  · exact queueItems_pushEnd _
  · rfl

theorem GotC.chanClose {c : Cell} (h : GotC c) (io : Bool) : GotC (c.chanClose io) := by
  unfold Cell.chanClose; split
  · exact h
  · exact h.same rfl rfl (queueItems_pushEnd _) rfl (fun hc => absurd rfl hc)

theorem queueItems_map_push (q : Option (List QItem)) (v : Item) (h : q.isSome = true) :
    queueItems (q.map (· ++ [QItem.item v])) = queueItems q ++ [v] := by
  obtain ⟨q0, rfl⟩ := Option.isSome_iff_exists.1 h
  simp [qItems_append, qItems]

theorem GotC.step {fails : Item → Bool} {i : Nat} {c c' : Cell} {w : List Frame}
    (hs : CellStep fails i c w c') (hsh : c.chan.Shape) (h : GotC c) : GotC c' := by
  cases hs with
  | create | remoteExec | exec => exact h.create hsh
  | send | waitErr | drop | dropItem => exact h
  | close io err => exact h.chanClose io
  | execFinish io err => exact GotC.chanClose (c := { c with chan := { c.chan with executing := false } }) h io
  | cbFailed | peerClose => exact h.same rfl rfl (queueItems_closedRec ..) rfl (fun hc => absurd rfl hc)
  | epilogue => exact h.same rfl rfl (queueItems_eofRec _) rfl (fun hc => absurd rfl hc)
  | recvItem v q _ hq =>
    have ht : (c.got ++ [v]) ++ queueItems (some q) = c.got ++ queueItems c.chan.queue := by
      rw [hq]; simp [qItems]
    exact h.of_sublist (ht ▸ List.Sublist.refl _) rfl (fun hb => ⟨hb, ht⟩)
      (fun hc => by have := h.2.2 hc; rw [hq] at this; simp [qItems] at this)
  | recvEnd q es _ hq => exact h.same rfl rfl (by rw [hq]; simp [qItems_append, qItems]) rfl id
  | setcbRaised w q _ hq _ =>
    refine h.of_sublist ?_ rfl (fun hb => nomatch hb) (fun _ => rfl)
    rw [hq]; simpa [Cell.setcb] using (drain_sublist fails q).append_left c.got
  | setcbDone w q _ hq hr | setcbReg w q _ hq hr =>
    have he := drain_eq_of_shape fails (hsh.queue q hq) hr
    refine h.of_sublist ?_ rfl (fun hb => ⟨hb, ?_⟩) (fun _ => rfl)
    all_goals rw [hq]; simp [Cell.setcb, he]
  | acceptCb v hcb =>
    -- callback mode: nothing is queued, the item goes to `got` and `kept` alike
    obtain ⟨g1, g2, g3⟩ := h
    have hq := g3 fun e => by rw [e] at hcb; cases hcb
    rw [hq, List.append_nil] at g1 g2
    unfold Cell.acceptCb
    exact ⟨by rw [hq, List.append_nil]; exact g1.append (List.Sublist.refl _),
      fun hb => by rw [hq, List.append_nil]; exact congrArg (· ++ [v]) (g2 hb), fun _ => hq⟩
  | acceptQ v hcb _ hq =>
    obtain ⟨g1, g2, _⟩ := h
    have hp := queueItems_map_push c.chan.queue v hq
    unfold Cell.acceptQ
    exact ⟨by rw [hp, ← List.append_assoc]; exact g1.append (List.Sublist.refl _),
      fun hb => by rw [hp, ← List.append_assoc]; exact congrArg (· ++ [v]) (g2 hb), fun hc => absurd hcb hc⟩

theorem GotAll_init : GotAll init :=
  (GotAll_iff init).2 fun p i => by
    cases p <;> exact ⟨List.Sublist.refl _, fun _ => rfl, fun h => absurd rfl h⟩

theorem GotAll_step (fails : Item → Bool) (st : State) (op : Op) :
    ShapeInv st → GotAll st → GotAll (step fails st op).2 :=
  fun hs h => (GotAll_iff _).2 fun p i =>
    cell_inv Chan.Shape.step GotC.step st op p i (hs p i) ((GotAll_iff st).1 h p i)

theorem GotInv_step (fails : Item → Bool) (st : State) (op : Op) :
    ShapeInv st → GotInvAux st → GotInv st → GotInv (step fails st op).2 :=
  fun hs ha hg => (GotAll_step fails st op hs ⟨ha, hg⟩).2

theorem GotInvAux_step (fails : Item → Bool) (st : State) (op : Op) :
    ShapeInv st → GotInv st → GotInvAux st → GotInvAux (step fails st op).2 :=
  fun hs hg ha => (GotAll_step fails st op hs ⟨ha, hg⟩).1

theorem GotAll_reachable {fails : Item → Bool} {st : State} (h : Reachable fails st) : GotAll st :=
  Reachable.induction GotAll_init (fun st op hr h => GotAll_step fails st op (ShapeInv_reachable hr) h) st h

theorem GotInv_reachable {fails : Item → Bool} {st : State} (h : Reachable fails st) : GotInv st :=
  (GotAll_reachable h).2

theorem GotInvAux_reachable {fails : Item → Bool} {st : State} (h : Reachable fails st) :
    GotInvAux st :=
  (GotAll_reachable h).1

theorem got_queued_sublist_sent {fails : Item → Bool} {st : State} (h : Reachable fails st) (p : Side) (id : Nat) :
    List.Sublist ((st.side p).got id ++ queueItems ((st.side p).chans id).queue) ((st.side p.peer).sent id) :=
  (GotInv_reachable h p id).1.trans (C02_in_order_general h p id)

theorem receive_error_head {fails : Item → Bool} {st : State} {p : Side} {id : Nat}
    (h : (step fails st (.receive p id)).1 = .eofError ∨
      ∃ e, (step fails st (.receive p id)).1 = .remoteError e) :
    ∃ q, ((st.side p).chans id).queue = some (.endmarker :: q) := by
  simp only [step] at h
  split at h
  · simp at h
  · split at h
    · simp at h
    · simp at h
    · simp at h
    · next q hq => exact ⟨q, hq⟩

theorem got_eq_kept_of_head_end {st : State} {p : Side} {id : Nat} {q : List QItem}
    (hs : ShapeInv st) (hg : GotInv st) (hq : ((st.side p).chans id).queue = some (.endmarker :: q))
    (hb : (st.side p).broken id = false) : (st.side p).got id = (st.side p).kept id := by
  have h1 := (hg p id).2 hb
  have h2 := QShape.qItems_head_end (Chan.Shape.queue (hs p id) _ hq)
  simp only [hq, queueItems_some, h2, List.append_nil] at h1
  exact h1

theorem C07_error_after_items {fails : Item → Bool} {st : State} {p : Side} {id : Nat} {e : Nat} :
    ShapeInv st → GotInv st → (step fails st (.receive p id)).1 = .remoteError e →
      (st.side p).broken id = false → (st.side p).got id = (st.side p).kept id := by
  intro hs hg hr hb
  obtain ⟨q, hq⟩ := receive_error_head (.inr ⟨e, hr⟩)
  exact got_eq_kept_of_head_end hs hg hq hb

theorem C07_eof_after_items {fails : Item → Bool} {st : State} {p : Side} {id : Nat} :
    ShapeInv st → GotInv st → (step fails st (.receive p id)).1 = .eofError →
      (st.side p).broken id = false → (st.side p).got id = (st.side p).kept id := by
  intro hs hg hr hb
  obtain ⟨q, hq⟩ := receive_error_head (.inl hr)
  exact got_eq_kept_of_head_end hs hg hq hb

/-- the receiver has seen the end of the channel: callback mode, or only ENDMARKERs are queued -/
def noMoreItems (c : Chan) : Prop :=
  c.queue = none ∨ ∃ k, 1 ≤ k ∧ c.queue = some (List.replicate k .endmarker)

theorem noMoreItems_pushEnd {c c' : Chan} (hq : c'.queue = pushEnd c.queue) (h : noMoreItems c) :
    noMoreItems c' := by
  unfold noMoreItems; rw [hq]
  rcases h with h | ⟨k, hk, h⟩
  · left; rw [h]; rfl
  · right; exact ⟨k + 1, by omega, by rw [h, pushEnd_replicate]⟩

theorem noMoreItems_registered {c : Chan} (h : noMoreItems c) (hs : c.Shape)
    (hr : c.registered = true) : c.queue = none := by
  rcases h with h | ⟨k, hk, h⟩
  · exact h
  · obtain ⟨items, k', he, hk'⟩ := hs.queue _ h
    have h0 : k' = 0 := hk'.2 (hs.of_registered hr).2.2.2
    subst h0
    cases k with
    | zero => omega
    | succ k => cases items <;> simp [List.replicate_succ] at he

theorem noMoreItems_created {c : Chan} (h : noMoreItems c) (hs : c.Shape) : c.created = true := by
  cases hc : c.created with
  | true => rfl
  | false =>
    have hq := (hs.of_not_created hc).1
    rcases h with h | ⟨k, hk, h⟩
    · rw [hq] at h; cases h
    · rw [hq] at h
      cases k with
      | zero => omega
      | succ k => simp [List.replicate_succ] at h

theorem not_noMoreItems_of_head_item {c : Chan} {v : Item} {q : List QItem}
    (hq : c.queue = some (.item v :: q)) : ¬ noMoreItems c := by
  rintro (hn | ⟨n, -, hn⟩) <;> rw [hq] at hn
  · cases hn
  · cases n <;> simp [List.replicate_succ] at hn

theorem noMoreItems_rotate {c c' : Chan} {q : List QItem} (hq : c.queue = some (.endmarker :: q))
    (hq' : c'.queue = some (q ++ [.endmarker])) (h : noMoreItems c) : noMoreItems c' := by
  rcases h with hn | ⟨n, hn1, hn⟩ <;> rw [hq] at hn
  · cases hn
  · cases n with
    | zero => omega
    | succ n =>
      simp only [List.replicate_succ, Option.some.injEq, List.cons.injEq, true_and] at hn
      exact .inr ⟨n + 1, by omega, by rw [hq', hn, List.replicate_succ']⟩

/-- the end was seen on the id, or the id was re-opened -/
def PastEnd (c : Cell) : Prop := noMoreItems c.chan ∨ c.broken = true

theorem PastEnd.chan {c d : Cell} (h : PastEnd c) (hb : d.broken = c.broken) (hc : noMoreItems c.chan → noMoreItems d.chan) :
    PastEnd d :=
  h.imp hc (hb ▸ ·)

/-- a record at its end was created, so creating one anew marks the id `broken` -/
theorem PastEnd.create {c : Cell} (h : PastEnd c) (hs : c.chan.Shape) : PastEnd c.create := by
  cases hr : c.chan.registered
  · right
    show (c.broken || ((c.chan.created || c.ended) && !c.chan.registered)) = true
    rcases h with h | h
    · simp [noMoreItems_created h hs, hr]
    · simp [h]
  · rw [Cell.create_of_registered hr]; exact h

theorem PastEnd.chanClose {c : Cell} (h : PastEnd c) (io : Bool) : PastEnd (c.chanClose io) := by
  unfold Cell.chanClose; split
  · exact h
  · exact h.chan rfl (noMoreItems_pushEnd rfl)

theorem PastEnd.step {fails : Item → Bool} {i : Nat} {c c' : Cell} {w : List Frame}
    (hs : CellStep fails i c w c') (hsh : c.chan.Shape) (h : PastEnd c) : PastEnd c' := by
  cases hs with
  | create | remoteExec | exec => exact h.create hsh
  | send | waitErr | drop | dropItem | acceptCb => exact h
  | close io err => exact h.chanClose io
  | execFinish io err => exact PastEnd.chanClose (c := { c with chan := { c.chan with executing := false } }) h io
  | cbFailed | peerClose =>
    refine h.chan rfl fun hn => ?_
    show noMoreItems (closedRec c.chan _ _)
    unfold closedRec; split
    · exact noMoreItems_pushEnd rfl hn
    · exact hn
  | epilogue =>
    refine h.chan rfl fun hn => ?_
    show noMoreItems (eofRec c.chan)
    unfold eofRec; split
    · exact noMoreItems_pushEnd rfl hn
    · exact hn
  | recvItem v q _ hq => exact h.chan rfl fun hn => absurd hn (not_noMoreItems_of_head_item hq)
  | recvEnd q es _ hq => exact h.chan rfl (noMoreItems_rotate hq rfl)
  | setcbRaised => exact .inr rfl
  | setcbDone | setcbReg => exact h.chan rfl fun _ => .inl rfl
  | acceptQ v _ hr hq =>
    exact h.chan rfl fun hn => by rw [noMoreItems_registered hn hsh hr] at hq; cases hq

theorem C03_no_item_after_end {fails : Item → Bool} {st : State} {p : Side} {id : Nat} :
    ShapeInv st → noMoreItems ((st.side p).chans id) →
      ∀ op, noMoreItems (((step fails st op).2.side p).chans id) ∨
        ((step fails st op).2.side p).broken id = true :=
  fun hs h op => cell_inv Chan.Shape.step PastEnd.step st op p id (hs p id) (.inl h)

theorem C03_receive_at_end {fails : Item → Bool} {st : State} {p : Side} {id : Nat} :
    noMoreItems ((st.side p).chans id) → ((st.side p).chans id).alive = true →
      (step fails st (.receive p id)).1 = .osError ∨ (step fails st (.receive p id)).1 = .eofError ∨
        ∃ e, (step fails st (.receive p id)).1 = .remoteError e := by
  intro hn ha
  rcases hn with hn | ⟨k, hk, hn⟩
  · left; simp [step, ha, hn]
  · cases k with
    | zero => omega
    | succ k =>
      rw [List.replicate_succ] at hn
      right
      simp only [step, ha, hn]
      cases hr : ((st.side p).chans id).rerrs with
      | nil => left; simp
      | cons e es => right; exact ⟨e, by simp⟩

/-- an (unreachable) state satisfying `ShapeInv` and `GotInv` in which a callback is registered while
an item is still queued -/
def cexState : State :=
  { a := { initSide 1 with
            chans := fun i => if i = 0 then { created := true, registered := true, alive := true,
                                              queue := some [.item ⟨0, []⟩] } else {},
            cbs := fun i => if i = 0 then some false else none,
            kept := fun i => if i = 0 then [⟨0, []⟩] else [] },
    b := { initSide 2 with out := [.data 0 ⟨1, []⟩] } }

theorem GotInv_not_inductive :
    ¬ ∀ (fails : Item → Bool) (st : State) (op : Op),
        ShapeInv st → GotInv st → GotInv (step fails st op).2 := by
  intro h
  have hs : ShapeInv cexState := by
    intro p id
    cases p
    · by_cases hi : id = 0
      · subst hi; exact shape_pushItem shape_fresh rfl ⟨0, []⟩
      · have : (cexState.side .A).chans id = {} := by simp [cexState, hi]
        show Chan.Shape _
        rw [this]; exact shape_default
    · exact shape_default
  have hg : GotInv cexState := by
    intro p id
    cases p
    · by_cases hi : id = 0
      · subst hi; simp [cexState, initSide, qItems]
      · simp [cexState, initSide, hi, qItems]
    · simp [cexState, initSide, qItems]
  -- the callback takes item 1 while item 0 is still queued: `got ++ queued` is `[1, 0]`, `kept` is `[0, 1]`
  have : List.Sublist [(⟨1, []⟩ : Item), ⟨0, []⟩] [⟨0, []⟩, ⟨1, []⟩] := by
    simpa [step, cexState, initSide, Side.peer, State.set, handle, registerAll, upd, qItems] using
      (h (fun _ => false) cexState (.deliver .A) hs hg .A 0).1
  exact absurd this (by decide)

end ExecnetVerif.Net
