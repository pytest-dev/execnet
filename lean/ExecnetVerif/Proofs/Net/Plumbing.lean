/-
What each helper of the `Net` model does, as one equation per helper: the result is a record update of
the argument with the case distinctions inside the fields; the receiver `handle` is cut into named
pieces of that form.
-/
import ExecnetVerif.Proofs.Net.Defs
namespace ExecnetVerif.Net

@[simp] theorem Side.peer_A : Side.A.peer = Side.B := rfl
@[simp] theorem Side.peer_B : Side.B.peer = Side.A := rfl
@[simp] theorem Side.peer_peer (s : Side) : s.peer.peer = s := by cases s <;> rfl
@[simp] theorem Side.peer_ne (s : Side) : s.peer ≠ s := by cases s <;> decide
@[simp] theorem Side.ne_peer (s : Side) : s ≠ s.peer := by cases s <;> decide
theorem Side.eq_or_eq_peer (s t : Side) : t = s ∨ t = s.peer := by cases s <;> cases t <;> simp
/-- `rcases Side.self_or_peer s t with rfl | rfl` replaces `t` by `s` resp. `s.peer` -/
theorem Side.self_or_peer (s t : Side) : s = t ∨ s.peer = t := by cases s <;> cases t <;> simp
theorem Side.eq_peer_of_ne {s t : Side} (h : t ≠ s) : t = s.peer := by
  cases s <;> cases t <;> simp_all
theorem Side.peer_eq_iff (s t : Side) : s.peer = t ↔ s = t.peer := by cases s <;> cases t <;> simp
@[simp] theorem Side.peer_inj (s t : Side) : s.peer = t.peer ↔ s = t := by cases s <;> cases t <;> simp
@[simp] theorem Side.beq_B_A : (Side.A == Side.B) = false := rfl
@[simp] theorem Side.beq_B_B : (Side.B == Side.B) = true := rfl

@[simp] theorem State.side_A (st : State) : st.side .A = st.a := rfl
@[simp] theorem State.side_B (st : State) : st.side .B = st.b := rfl
@[simp] theorem State.set_A_a (st : State) (x : SideSt) : (st.set .A x).a = x := rfl
@[simp] theorem State.set_A_b (st : State) (x : SideSt) : (st.set .A x).b = st.b := rfl
@[simp] theorem State.set_B_a (st : State) (x : SideSt) : (st.set .B x).a = st.a := rfl
@[simp] theorem State.set_B_b (st : State) (x : SideSt) : (st.set .B x).b = x := rfl
@[simp] theorem State.side_set_same (st : State) (s : Side) (x : SideSt) : (st.set s x).side s = x := by
  cases s <;> rfl
@[simp] theorem State.side_set_peer (st : State) (s : Side) (x : SideSt) :
    (st.set s x).side s.peer = st.side s.peer := by cases s <;> rfl
@[simp] theorem State.side_peer_set (st : State) (s : Side) (x : SideSt) :
    (st.set s.peer x).side s = st.side s := by cases s <;> rfl
theorem State.side_set_of_ne (st : State) {s t : Side} (x : SideSt) (h : t ≠ s) :
    (st.set s x).side t = st.side t := by cases s <;> cases t <;> simp_all
theorem State.side_set (st : State) (s t : Side) (x : SideSt) :
    (st.set s x).side t = if t = s then x else st.side t := by cases s <;> cases t <;> simp
@[simp] theorem State.set_set_same (st : State) (s : Side) (x y : SideSt) :
    (st.set s x).set s y = st.set s y := by cases s <;> rfl
@[simp] theorem State.set_side_self (st : State) (s : Side) : st.set s (st.side s) = st := by
  cases s <;> rfl
theorem State.ext_side {st st' : State} (h : ∀ s, st.side s = st'.side s) : st = st' := by
  cases st; cases st'; have ha := h .A; have hb := h .B; simp only [State.side] at ha hb; simp [ha, hb]

@[simp] theorem upd_same {α : Type} (f : Nat → α) (k : Nat) (v : α) : upd f k v k = v := by simp [upd]
theorem upd_ne {α : Type} (f : Nat → α) {i k : Nat} (v : α) (h : i ≠ k) : upd f k v i = f i := by
  simp [upd, h]
theorem upd_apply {α : Type} (f : Nat → α) (k : Nat) (v : α) (i : Nat) :
    upd f k v i = if i = k then v else f i := rfl
@[simp] theorem upd_eq_self {α : Type} (f : Nat → α) (k : Nat) : upd f k (f k) = f := by
  funext i; simp only [upd]; split <;> simp_all

@[simp] theorem upd_upd {α : Type} (f : Nat → α) (k : Nat) (v w : α) : upd (upd f k v) k w = upd f k w := by
  funext i; simp only [upd]; split <;> rfl

/-- the `i = k` / `i ≠ k` split, once: a pointwise property survives `upd` if the new value has it -/
theorem forall_upd {α : Type} {P : Nat → α → Prop} {f : Nat → α} {k : Nat} {v : α}
    (h : ∀ i, P i (f i)) (hv : P k v) : ∀ i, P i (upd f k v i) := by
  intro i; rw [upd_apply]; split
  · next e => exact e ▸ hv
  · exact h i

theorem upd_proj {α β : Type} (π : α → β) {f : Nat → α} {k : Nat} {v : α} (h : π v = π (f k)) (i : Nat) :
    π (upd f k v i) = π (f i) :=
  forall_upd (P := fun i a => π a = π (f i)) (fun _ => rfl) h i

@[simp] theorem dataOf_nil (id : Nat) : dataOf id [] = [] := rfl
@[simp] theorem dataOf_cons_data (id i : Nat) (v : Item) (l : List Frame) :
    dataOf id (.data i v :: l) = if i = id then v :: dataOf id l else dataOf id l := rfl
@[simp] theorem dataOf_cons_close (id i : Nat) (l : List Frame) : dataOf id (.close i :: l) = dataOf id l := rfl
@[simp] theorem dataOf_cons_closeErr (id i e : Nat) (l : List Frame) :
    dataOf id (.closeErr i e :: l) = dataOf id l := rfl
@[simp] theorem dataOf_cons_lastMsg (id i : Nat) (l : List Frame) : dataOf id (.lastMsg i :: l) = dataOf id l := rfl
@[simp] theorem dataOf_cons_exec (id i : Nat) (l : List Frame) : dataOf id (.exec i :: l) = dataOf id l := rfl
@[simp] theorem dataOf_cons_terminate (id : Nat) (l : List Frame) : dataOf id (.terminate :: l) = dataOf id l := rfl

def Frame.isData : Frame → Bool
  | .data _ _ => true
  | _ => false

theorem dataOf_cons_of_not_isData (id : Nat) {f : Frame} (l : List Frame) (h : f.isData = false) :
    dataOf id (f :: l) = dataOf id l := by cases f <;> simp_all [Frame.isData]

@[simp] theorem dataOf_append (id : Nat) (l1 l2 : List Frame) :
    dataOf id (l1 ++ l2) = dataOf id l1 ++ dataOf id l2 := by
  induction l1 with
  | nil => rfl
  | cons f t ih => cases f <;> simp [ih]; split <;> simp

theorem dataOf_append_of_not_isData (id : Nat) {f : Frame} (l : List Frame) (h : f.isData = false) :
    dataOf id (l ++ [f]) = dataOf id l := by simp [dataOf_cons_of_not_isData id [] h]
@[simp] theorem closeFrame_isData (id : Nat) (err : Option Nat) : (closeFrame id err).isData = false := by
  cases err <;> rfl
@[simp] theorem dataOf_closeFrame (k id : Nat) (err : Option Nat) : dataOf k [closeFrame id err] = [] := by
  cases err <;> rfl

theorem pushEnd_replicate (m : Nat) :
    pushEnd (some (List.replicate m QItem.endmarker)) = some (List.replicate (m + 1) QItem.endmarker) := by
  simp only [pushEnd, Option.map, List.replicate_succ']

theorem createChan_of_registered {c : Chan} (h : c.registered = true) : createChan c = c := by
  simp [createChan, h]
theorem createChan_of_not_registered {c : Chan} (h : c.registered = false) :
    createChan c = { created := true, registered := true, alive := true } := by simp [createChan, h]
@[simp] theorem createChan_registered (c : Chan) : (createChan c).registered = true := by
  unfold createChan; split <;> simp_all
@[simp] theorem createChan_idem (c : Chan) : createChan (createChan c) = createChan c :=
  createChan_of_registered (createChan_registered c)
theorem createChan_created_mono {c : Chan} (h : c.created = true) : (createChan c).created = true := by
  unfold createChan; split <;> simp_all
theorem createChan_alive_mono {c : Chan} (h : c.alive = true) : (createChan c).alive = true := by
  unfold createChan; split <;> simp_all
theorem createChan_created (c : Chan) : (createChan c).created = (c.created || !c.registered) := by
  unfold createChan; split <;> simp_all
theorem createChan_alive (c : Chan) : (createChan c).alive = (c.alive || !c.registered) := by
  unfold createChan; split <;> simp_all

@[simp] theorem registerAll_nil (x : SideSt) : registerAll x [] = x := rfl
@[simp] theorem registerAll_cons (x : SideSt) (k : Nat) (ids : List Nat) :
    registerAll x (k :: ids) = registerAll (createAt x k) ids := rfl
theorem registerAll_append (x : SideSt) (l1 l2 : List Nat) :
    registerAll x (l1 ++ l2) = registerAll (registerAll x l1) l2 := by simp [registerAll]

theorem registerAll_eq (x : SideSt) (ids : List Nat) :
    registerAll x ids = { x with chans := (registerAll x ids).chans, broken := (registerAll x ids).broken } := by
  induction ids generalizing x with
  | nil => rfl
  | cons k t ih => rw [registerAll_cons, ih]; rfl

/-- what `_no_longer_opened` appends to the callback log -/
def endLog (cb : Option Bool) (l : List CbEvent) : List CbEvent :=
  match cb with
  | some true => l ++ [.endmarker]
  | _ => l

theorem noLongerOpened_eq (x : SideSt) (id : Nat) : noLongerOpened x id =
    { x with chans := upd x.chans id { x.chans id with registered := false },
             cbs := upd x.cbs id none,
             cbLog := upd x.cbLog id (endLog (x.cbs id) (x.cbLog id)) } := rfl

/-- the record after `_local_close` (an unregistered record is left alone) -/
def closedRec (c : Chan) (err : Option Nat) (so : Bool) : Chan :=
  if c.registered then
    { c with rerrs := c.rerrs ++ err.toList, queue := pushEnd c.queue, closed := c.closed || !so,
             rclosed := true, registered := false }
  else c

theorem localClose_eq (x : SideSt) (id : Nat) (err : Option Nat) (so : Bool) : localClose x id err so =
    { x with chans := upd x.chans id (closedRec (x.chans id) err so),
             cbs := upd x.cbs id none,
             cbLog := upd x.cbLog id (endLog (x.cbs id) (x.cbLog id)),
             ended := upd x.ended id true } := by
  simp only [localClose, closedRec]; split
  · simp [noLongerOpened_eq]
  · next h =>
    have e : { x.chans id with registered := false } = x.chans id := by cases hc : x.chans id; simp_all
    simp [noLongerOpened_eq, e]

/-- the record after the user's `close` -/
def userClosedRec (c : Chan) : Chan :=
  { c with closed := true, rclosed := true, queue := pushEnd c.queue, registered := false }

/-- the side after a `doClose` that does not fail -/
def closedSide (x : SideSt) (id : Nat) (fr : Frame) : SideSt :=
  { x with out := if x.ioOpen then x.out ++ [fr] else x.out,
           closeSent := if x.ioOpen then upd x.closeSent id true else x.closeSent,
           chans := upd x.chans id (userClosedRec (x.chans id)),
           cbs := upd x.cbs id none,
           cbLog := upd x.cbLog id (endLog (x.cbs id) (x.cbLog id)),
           ended := upd x.ended id true }

theorem doClose_eq (x : SideSt) (id : Nat) (fr : Frame) : doClose x id fr =
    if !x.ioOpen && !(x.chans id).rclosed then (.osError, x) else (.ok, closedSide x id fr) := by
  simp only [doClose, closedSide, userClosedRec]; split
  · rfl
  · cases h : x.ioOpen <;> simp [noLongerOpened_eq, h]

theorem chanClose_snd (x : SideSt) (id : Nat) (err : Option Nat) : (chanClose x id err).2 =
    if (x.chans id).executing || (x.chans id).closed || (!x.ioOpen && !(x.chans id).rclosed) then x
    else closedSide x id (closeFrame id err) := by
  cases he : (x.chans id).executing
  · cases hc : (x.chans id).closed
    · simp only [chanClose, he, hc, doClose_eq, Bool.false_eq_true, if_false, Bool.false_or]
      split <;> rfl
    · simp [chanClose, he, hc]
  · simp [chanClose, he]

/-- the record after the receiver epilogue (an unregistered record is left alone) -/
def eofRec (c : Chan) : Chan :=
  if c.registered then { c with queue := pushEnd c.queue, registered := false, rclosed := true } else c

theorem epilogue_eq (x : SideSt) (isCut : Bool) : epilogue x isCut =
    { x with gwerr := x.gwerr || isCut, finished := true, ioOpen := false,
             chans := fun id => eofRec (x.chans id), cbs := fun _ => none,
             ended := fun id => x.ended id || (x.chans id).registered || (x.cbs id).isSome,
             cbLog := fun id => endLog (x.cbs id) (x.cbLog id) } := rfl

@[simp] theorem createAt_cbs (x : SideSt) (id : Nat) : (createAt x id).cbs = x.cbs := rfl
@[simp] theorem createAt_count (x : SideSt) (id : Nat) : (createAt x id).count = x.count := rfl
@[simp] theorem createAt_finished (x : SideSt) (id : Nat) : (createAt x id).finished = x.finished := rfl
@[simp] theorem createAt_gwerr (x : SideSt) (id : Nat) : (createAt x id).gwerr = x.gwerr := rfl
@[simp] theorem createAt_ioOpen (x : SideSt) (id : Nat) : (createAt x id).ioOpen = x.ioOpen := rfl
@[simp] theorem createAt_out (x : SideSt) (id : Nat) : (createAt x id).out = x.out := rfl
@[simp] theorem createAt_sent (x : SideSt) (id : Nat) : (createAt x id).sent = x.sent := rfl
@[simp] theorem createAt_got (x : SideSt) (id : Nat) : (createAt x id).got = x.got := rfl
@[simp] theorem createAt_kept (x : SideSt) (id : Nat) : (createAt x id).kept = x.kept := rfl
@[simp] theorem createAt_delivered (x : SideSt) (id : Nat) : (createAt x id).delivered = x.delivered := rfl
@[simp] theorem createAt_cbLog (x : SideSt) (id : Nat) : (createAt x id).cbLog = x.cbLog := rfl
@[simp] theorem createAt_dropped (x : SideSt) (id : Nat) : (createAt x id).dropped = x.dropped := rfl
@[simp] theorem createAt_cbWants (x : SideSt) (id : Nat) : (createAt x id).cbWants = x.cbWants := rfl
@[simp] theorem createAt_ended (x : SideSt) (id : Nat) : (createAt x id).ended = x.ended := rfl
@[simp] theorem createAt_closeSeen (x : SideSt) (id : Nat) : (createAt x id).closeSeen = x.closeSeen := rfl
@[simp] theorem createAt_closeSent (x : SideSt) (id : Nat) : (createAt x id).closeSent = x.closeSent := rfl

@[simp] theorem registerAll_cbs (x : SideSt) (ids : List Nat) : (registerAll x ids).cbs = x.cbs := by rw [registerAll_eq]
@[simp] theorem registerAll_count (x : SideSt) (ids : List Nat) : (registerAll x ids).count = x.count := by rw [registerAll_eq]
@[simp] theorem registerAll_finished (x : SideSt) (ids : List Nat) : (registerAll x ids).finished = x.finished := by rw [registerAll_eq]
@[simp] theorem registerAll_gwerr (x : SideSt) (ids : List Nat) : (registerAll x ids).gwerr = x.gwerr := by rw [registerAll_eq]
@[simp] theorem registerAll_ioOpen (x : SideSt) (ids : List Nat) : (registerAll x ids).ioOpen = x.ioOpen := by rw [registerAll_eq]
@[simp] theorem registerAll_out (x : SideSt) (ids : List Nat) : (registerAll x ids).out = x.out := by rw [registerAll_eq]
@[simp] theorem registerAll_sent (x : SideSt) (ids : List Nat) : (registerAll x ids).sent = x.sent := by rw [registerAll_eq]
@[simp] theorem registerAll_got (x : SideSt) (ids : List Nat) : (registerAll x ids).got = x.got := by rw [registerAll_eq]
@[simp] theorem registerAll_kept (x : SideSt) (ids : List Nat) : (registerAll x ids).kept = x.kept := by rw [registerAll_eq]
@[simp] theorem registerAll_delivered (x : SideSt) (ids : List Nat) : (registerAll x ids).delivered = x.delivered := by rw [registerAll_eq]
@[simp] theorem registerAll_cbLog (x : SideSt) (ids : List Nat) : (registerAll x ids).cbLog = x.cbLog := by rw [registerAll_eq]
@[simp] theorem registerAll_dropped (x : SideSt) (ids : List Nat) : (registerAll x ids).dropped = x.dropped := by rw [registerAll_eq]
@[simp] theorem registerAll_cbWants (x : SideSt) (ids : List Nat) : (registerAll x ids).cbWants = x.cbWants := by rw [registerAll_eq]
@[simp] theorem registerAll_ended (x : SideSt) (ids : List Nat) : (registerAll x ids).ended = x.ended := by rw [registerAll_eq]
@[simp] theorem registerAll_closeSeen (x : SideSt) (ids : List Nat) : (registerAll x ids).closeSeen = x.closeSeen := by rw [registerAll_eq]
@[simp] theorem registerAll_closeSent (x : SideSt) (ids : List Nat) : (registerAll x ids).closeSent = x.closeSent := by rw [registerAll_eq]

@[simp] theorem noLongerOpened_count (x : SideSt) (id : Nat) : (noLongerOpened x id).count = x.count := rfl
@[simp] theorem noLongerOpened_finished (x : SideSt) (id : Nat) : (noLongerOpened x id).finished = x.finished := rfl
@[simp] theorem noLongerOpened_gwerr (x : SideSt) (id : Nat) : (noLongerOpened x id).gwerr = x.gwerr := rfl
@[simp] theorem noLongerOpened_ioOpen (x : SideSt) (id : Nat) : (noLongerOpened x id).ioOpen = x.ioOpen := rfl
@[simp] theorem noLongerOpened_out (x : SideSt) (id : Nat) : (noLongerOpened x id).out = x.out := rfl
@[simp] theorem noLongerOpened_sent (x : SideSt) (id : Nat) : (noLongerOpened x id).sent = x.sent := rfl
@[simp] theorem noLongerOpened_got (x : SideSt) (id : Nat) : (noLongerOpened x id).got = x.got := rfl
@[simp] theorem noLongerOpened_kept (x : SideSt) (id : Nat) : (noLongerOpened x id).kept = x.kept := rfl
@[simp] theorem noLongerOpened_delivered (x : SideSt) (id : Nat) : (noLongerOpened x id).delivered = x.delivered := rfl
@[simp] theorem noLongerOpened_dropped (x : SideSt) (id : Nat) : (noLongerOpened x id).dropped = x.dropped := rfl
@[simp] theorem noLongerOpened_broken (x : SideSt) (id : Nat) : (noLongerOpened x id).broken = x.broken := rfl
@[simp] theorem noLongerOpened_cbWants (x : SideSt) (id : Nat) : (noLongerOpened x id).cbWants = x.cbWants := rfl
@[simp] theorem noLongerOpened_ended (x : SideSt) (id : Nat) : (noLongerOpened x id).ended = x.ended := rfl
@[simp] theorem noLongerOpened_closeSeen (x : SideSt) (id : Nat) : (noLongerOpened x id).closeSeen = x.closeSeen := rfl
@[simp] theorem noLongerOpened_closeSent (x : SideSt) (id : Nat) : (noLongerOpened x id).closeSent = x.closeSent := rfl

@[simp] theorem localClose_ioOpen (x : SideSt) (id : Nat) (err : Option Nat) (so : Bool) :
    (localClose x id err so).ioOpen = x.ioOpen := by rw [localClose_eq]
@[simp] theorem localClose_got (x : SideSt) (id : Nat) (err : Option Nat) (so : Bool) :
    (localClose x id err so).got = x.got := by rw [localClose_eq]
@[simp] theorem localClose_dropped (x : SideSt) (id : Nat) (err : Option Nat) (so : Bool) :
    (localClose x id err so).dropped = x.dropped := by rw [localClose_eq]
@[simp] theorem localClose_broken (x : SideSt) (id : Nat) (err : Option Nat) (so : Bool) :
    (localClose x id err so).broken = x.broken := by rw [localClose_eq]
@[simp] theorem localClose_closeSeen (x : SideSt) (id : Nat) (err : Option Nat) (so : Bool) :
    (localClose x id err so).closeSeen = x.closeSeen := by rw [localClose_eq]
@[simp] theorem localClose_closeSent (x : SideSt) (id : Nat) (err : Option Nat) (so : Bool) :
    (localClose x id err so).closeSent = x.closeSent := by rw [localClose_eq]

@[simp] theorem chanClose_count (x : SideSt) (id : Nat) (err : Option Nat) : (chanClose x id err).2.count = x.count := by
  rw [chanClose_snd]; split <;> rfl
@[simp] theorem chanClose_sent (x : SideSt) (id : Nat) (err : Option Nat) : (chanClose x id err).2.sent = x.sent := by
  rw [chanClose_snd]; split <;> rfl
@[simp] theorem chanClose_finished (x : SideSt) (id : Nat) (err : Option Nat) : (chanClose x id err).2.finished = x.finished := by
  rw [chanClose_snd]; split <;> rfl
@[simp] theorem chanClose_gwerr (x : SideSt) (id : Nat) (err : Option Nat) : (chanClose x id err).2.gwerr = x.gwerr := by
  rw [chanClose_snd]; split <;> rfl
@[simp] theorem chanClose_ioOpen (x : SideSt) (id : Nat) (err : Option Nat) : (chanClose x id err).2.ioOpen = x.ioOpen := by
  rw [chanClose_snd]; split <;> rfl
@[simp] theorem chanClose_got (x : SideSt) (id : Nat) (err : Option Nat) : (chanClose x id err).2.got = x.got := by
  rw [chanClose_snd]; split <;> rfl
@[simp] theorem chanClose_broken (x : SideSt) (id : Nat) (err : Option Nat) : (chanClose x id err).2.broken = x.broken := by
  rw [chanClose_snd]; split <;> rfl
@[simp] theorem chanClose_cbWants (x : SideSt) (id : Nat) (err : Option Nat) : (chanClose x id err).2.cbWants = x.cbWants := by
  rw [chanClose_snd]; split <;> rfl
@[simp] theorem chanClose_closeSeen (x : SideSt) (id : Nat) (err : Option Nat) : (chanClose x id err).2.closeSeen = x.closeSeen := by
  rw [chanClose_snd]; split <;> rfl

@[simp] theorem epilogue_count (x : SideSt) (isCut : Bool) : (epilogue x isCut).count = x.count := rfl
@[simp] theorem epilogue_out (x : SideSt) (isCut : Bool) : (epilogue x isCut).out = x.out := rfl
@[simp] theorem epilogue_sent (x : SideSt) (isCut : Bool) : (epilogue x isCut).sent = x.sent := rfl
@[simp] theorem epilogue_got (x : SideSt) (isCut : Bool) : (epilogue x isCut).got = x.got := rfl
@[simp] theorem epilogue_kept (x : SideSt) (isCut : Bool) : (epilogue x isCut).kept = x.kept := rfl
@[simp] theorem epilogue_delivered (x : SideSt) (isCut : Bool) : (epilogue x isCut).delivered = x.delivered := rfl
@[simp] theorem epilogue_dropped (x : SideSt) (isCut : Bool) : (epilogue x isCut).dropped = x.dropped := rfl
@[simp] theorem epilogue_broken (x : SideSt) (isCut : Bool) : (epilogue x isCut).broken = x.broken := rfl
@[simp] theorem epilogue_cbWants (x : SideSt) (isCut : Bool) : (epilogue x isCut).cbWants = x.cbWants := rfl
@[simp] theorem epilogue_closeSeen (x : SideSt) (isCut : Bool) : (epilogue x isCut).closeSeen = x.closeSeen := rfl
@[simp] theorem epilogue_closeSent (x : SideSt) (isCut : Bool) : (epilogue x isCut).closeSent = x.closeSent := rfl

@[simp] theorem createAt_chans (x : SideSt) (id : Nat) :
    (createAt x id).chans = upd x.chans id (createChan (x.chans id)) := rfl
theorem createAt_chans_ne (x : SideSt) {id k : Nat} (h : k ≠ id) : (createAt x id).chans k = x.chans k := by
  simp [upd_ne _ _ h]
theorem createAt_chans_same (x : SideSt) (id : Nat) : (createAt x id).chans id = createChan (x.chans id) := by
  simp
@[simp] theorem createAt_broken (x : SideSt) (id : Nat) :
    (createAt x id).broken = upd x.broken id
      (x.broken id || (((x.chans id).created || x.ended id) && !(x.chans id).registered)) := rfl

theorem registerAll_chans (x : SideSt) (ids : List Nat) (k : Nat) :
    (registerAll x ids).chans k = if k ∈ ids then createChan (x.chans k) else x.chans k := by
  induction ids generalizing x with
  | nil => simp
  | cons i t ih =>
    rw [registerAll_cons, ih]
    by_cases hk : k = i
    · subst hk; simp
    · simp [hk, upd_ne _ _ hk]
theorem registerAll_chans_of_not_mem (x : SideSt) {ids : List Nat} {k : Nat} (h : k ∉ ids) :
    (registerAll x ids).chans k = x.chans k := by simp [registerAll_chans, h]
theorem registerAll_chans_of_mem (x : SideSt) {ids : List Nat} {k : Nat} (h : k ∈ ids) :
    (registerAll x ids).chans k = createChan (x.chans k) := by simp [registerAll_chans, h]
theorem registerAll_chans_of_registered (x : SideSt) {ids : List Nat} {k : Nat}
    (h : (x.chans k).registered = true) : (registerAll x ids).chans k = x.chans k := by
  rw [registerAll_chans]; split
  · exact createChan_of_registered h
  · rfl
theorem registerAll_broken_of_not_mem (x : SideSt) {ids : List Nat} {k : Nat} (h : k ∉ ids) :
    (registerAll x ids).broken k = x.broken k := by
  induction ids generalizing x with
  | nil => rfl
  | cons i t ih =>
    simp only [List.mem_cons, not_or] at h
    rw [registerAll_cons, ih _ h.2]; simp [upd_ne _ _ h.1]
theorem registerAll_broken_mono (x : SideSt) (ids : List Nat) {k : Nat} (h : x.broken k = true) :
    (registerAll x ids).broken k = true := by
  induction ids generalizing x with
  | nil => exact h
  | cons i t ih =>
    rw [registerAll_cons]; apply ih
    by_cases hk : k = i
    · subst hk; simp [h]
    · simp [upd_ne _ _ hk, h]

@[simp] theorem noLongerOpened_chans (x : SideSt) (id : Nat) :
    (noLongerOpened x id).chans = upd x.chans id { x.chans id with registered := false } := rfl
@[simp] theorem noLongerOpened_cbs (x : SideSt) (id : Nat) : (noLongerOpened x id).cbs = upd x.cbs id none := rfl
@[simp] theorem noLongerOpened_cbLog (x : SideSt) (id : Nat) :
    (noLongerOpened x id).cbLog = upd x.cbLog id (match x.cbs id with
      | some true => x.cbLog id ++ [.endmarker]
      | _ => x.cbLog id) := rfl

/-- closing a record leaves the fields that only its owner's API calls change -/
theorem closedRec_owner (c : Chan) (err : Option Nat) (so : Bool) :
    (closedRec c err so).created = c.created ∧ (closedRec c err so).alive = c.alive ∧
    (closedRec c err so).executing = c.executing := by
  unfold closedRec; split <;> exact ⟨rfl, rfl, rfl⟩

theorem eofRec_owner (c : Chan) :
    (eofRec c).created = c.created ∧ (eofRec c).alive = c.alive ∧ (eofRec c).executing = c.executing := by
  unfold eofRec; split <;> exact ⟨rfl, rfl, rfl⟩

@[simp] theorem localClose_chans_created (x : SideSt) (id k : Nat) (err : Option Nat) (so : Bool) :
    ((localClose x id err so).chans k).created = (x.chans k).created := by
  rw [localClose_eq]; exact upd_proj Chan.created (closedRec_owner ..).1 k
@[simp] theorem localClose_chans_alive (x : SideSt) (id k : Nat) (err : Option Nat) (so : Bool) :
    ((localClose x id err so).chans k).alive = (x.chans k).alive := by
  rw [localClose_eq]; exact upd_proj Chan.alive (closedRec_owner ..).2.1 k
@[simp] theorem localClose_chans_executing (x : SideSt) (id k : Nat) (err : Option Nat) (so : Bool) :
    ((localClose x id err so).chans k).executing = (x.chans k).executing := by
  rw [localClose_eq]; exact upd_proj Chan.executing (closedRec_owner ..).2.2 k
@[simp] theorem localClose_chans_registered_same (x : SideSt) (id : Nat) (err : Option Nat) (so : Bool) :
    ((localClose x id err so).chans id).registered = false := by
  rw [localClose_eq]; simp only [upd_same, closedRec]; split <;> simp_all
@[simp] theorem localClose_ended (x : SideSt) (id : Nat) (err : Option Nat) (so : Bool) :
    (localClose x id err so).ended = upd x.ended id true := by rw [localClose_eq]
@[simp] theorem localClose_cbs (x : SideSt) (id : Nat) (err : Option Nat) (so : Bool) :
    (localClose x id err so).cbs = upd x.cbs id none := by rw [localClose_eq]
@[simp] theorem localClose_cbLog (x : SideSt) (id : Nat) (err : Option Nat) (so : Bool) :
    (localClose x id err so).cbLog = upd x.cbLog id (match x.cbs id with
      | some true => x.cbLog id ++ [.endmarker]
      | _ => x.cbLog id) := by rw [localClose_eq]; rfl

theorem closedSide_owner (x : SideSt) (id : Nat) (fr : Frame) (k : Nat) :
    ((closedSide x id fr).chans k).created = (x.chans k).created ∧
    ((closedSide x id fr).chans k).alive = (x.chans k).alive ∧
    ((closedSide x id fr).chans k).executing = (x.chans k).executing :=
  ⟨upd_proj Chan.created (v := userClosedRec (x.chans id)) rfl k,
    upd_proj Chan.alive (v := userClosedRec (x.chans id)) rfl k,
    upd_proj Chan.executing (v := userClosedRec (x.chans id)) rfl k⟩

theorem doClose_out (x : SideSt) (id : Nat) (fr : Frame) :
    (doClose x id fr).2.out = if (doClose x id fr).1 = .ok ∧ x.ioOpen = true then x.out ++ [fr] else x.out := by
  rw [doClose_eq]; split <;> simp [closedSide]

theorem chanClose_out (x : SideSt) (id : Nat) (err : Option Nat) :
    (chanClose x id err).2.out = x.out ∨ (chanClose x id err).2.out = x.out ++ [closeFrame id err] := by
  rw [chanClose_snd]; split
  · exact .inl rfl
  · simp only [closedSide]; split
    · exact .inr rfl
    · exact .inl rfl
@[simp] theorem chanClose_dataOf_out (x : SideSt) (id k : Nat) (err : Option Nat) :
    dataOf k (chanClose x id err).2.out = dataOf k x.out := by
  rcases chanClose_out x id err with h | h <;> rw [h] <;> simp
theorem chanClose_chans_ne (x : SideSt) {id k : Nat} (err : Option Nat) (h : k ≠ id) :
    ((chanClose x id err).2.chans k) = x.chans k := by
  rw [chanClose_snd]; split
  · rfl
  · exact upd_ne _ _ h
@[simp] theorem chanClose_chans_created (x : SideSt) (id k : Nat) (err : Option Nat) :
    ((chanClose x id err).2.chans k).created = (x.chans k).created := by
  rw [chanClose_snd]; split
  · rfl
  · exact (closedSide_owner ..).1
@[simp] theorem chanClose_chans_alive (x : SideSt) (id k : Nat) (err : Option Nat) :
    ((chanClose x id err).2.chans k).alive = (x.chans k).alive := by
  rw [chanClose_snd]; split
  · rfl
  · exact (closedSide_owner ..).2.1
@[simp] theorem chanClose_chans_executing (x : SideSt) (id k : Nat) (err : Option Nat) :
    ((chanClose x id err).2.chans k).executing = (x.chans k).executing := by
  rw [chanClose_snd]; split
  · rfl
  · exact (closedSide_owner ..).2.2

@[simp] theorem epilogue_finished (x : SideSt) (isCut : Bool) : (epilogue x isCut).finished = true := rfl
@[simp] theorem epilogue_ioOpen (x : SideSt) (isCut : Bool) : (epilogue x isCut).ioOpen = false := rfl
@[simp] theorem epilogue_gwerr (x : SideSt) (isCut : Bool) : (epilogue x isCut).gwerr = (x.gwerr || isCut) := rfl
@[simp] theorem epilogue_cbs (x : SideSt) (isCut : Bool) (id : Nat) : (epilogue x isCut).cbs id = none := rfl
@[simp] theorem epilogue_chans_created (x : SideSt) (isCut : Bool) (k : Nat) :
    ((epilogue x isCut).chans k).created = (x.chans k).created := (eofRec_owner _).1
@[simp] theorem epilogue_chans_alive (x : SideSt) (isCut : Bool) (k : Nat) :
    ((epilogue x isCut).chans k).alive = (x.chans k).alive := (eofRec_owner _).2.1
@[simp] theorem epilogue_chans_executing (x : SideSt) (isCut : Bool) (k : Nat) :
    ((epilogue x isCut).chans k).executing = (x.chans k).executing := (eofRec_owner _).2.2
@[simp] theorem epilogue_chans_registered (x : SideSt) (isCut : Bool) (k : Nat) :
    ((epilogue x isCut).chans k).registered = false := by
  simp only [epilogue_eq, eofRec]; split
  · rfl
  · next h => simpa using h

/-! Each piece of the receiver is a record update of `x` itself (the registration of carried ids appears as
`(registerAll x v.chans).chans/.broken`), so its unchanged fields are `rfl`. -/

theorem registerAll_with_delivered (x : SideSt) (d : Nat → List Item) (ids : List Nat) :
    registerAll { x with delivered := d } ids = { registerAll x ids with delivered := d } := by
  induction ids generalizing x with
  | nil => rfl
  | cons k t ih => exact ih (createAt x k)

/-- a DATA frame handed to the registered callback, before the callback's verdict -/
def acceptCb (x : SideSt) (id : Nat) (v : Item) : SideSt :=
  { x with chans := (registerAll x v.chans).chans, broken := (registerAll x v.chans).broken,
           delivered := upd x.delivered id (x.delivered id ++ [v]),
           cbLog := upd x.cbLog id (x.cbLog id ++ [.item v]),
           got := upd x.got id (x.got id ++ [v]),
           kept := upd x.kept id (x.kept id ++ [v]) }

def acceptQ (x : SideSt) (id : Nat) (v : Item) : SideSt :=
  { x with chans := upd (registerAll x v.chans).chans id
             { (registerAll x v.chans).chans id with
               queue := ((registerAll x v.chans).chans id).queue.map (· ++ [.item v]) },
           broken := (registerAll x v.chans).broken,
           delivered := upd x.delivered id (x.delivered id ++ [v]),
           kept := upd x.kept id (x.kept id ++ [v]) }

def dropItem (x : SideSt) (id : Nat) (v : Item) : SideSt :=
  { x with delivered := upd x.delivered id (x.delivered id ++ [v]), dropped := upd x.dropped id true }

def writeCloseErr (x : SideSt) (id e : Nat) : SideSt :=
  { x with out := x.out ++ [.closeErr id e], closeSent := upd x.closeSent id true }

/-- CHANNEL_EXEC at the worker -/
def execAt (x : SideSt) (id : Nat) : SideSt :=
  { createAt x id with chans := upd x.chans id { createChan (x.chans id) with executing := true } }

/-- the arguments with which a closing frame calls `_local_close`: id, remote error, `sendonly` -/
def Frame.closeArgs : Frame → Option (Nat × Option Nat × Bool)
  | .close id => some (id, none, false)
  | .closeErr id e => some (id, some e, false)
  | .lastMsg id => some (id, none, true)
  | _ => none

theorem Frame.of_closeArgs {f : Frame} {id : Nat} {err : Option Nat} {so : Bool}
    (h : f.closeArgs = some (id, err, so)) :
    f = .close id ∨ (∃ e, f = .closeErr id e) ∨ f = .lastMsg id := by
  cases f <;> simp_all [Frame.closeArgs]

theorem handle_data (fails : Item → Bool) (x : SideSt) (w : Bool) (id : Nat) (v : Item) :
    handle fails x w (.data id v) =
      if (x.cbs id).isSome then
        if fails v then
          if x.ioOpen then localClose (writeCloseErr (acceptCb x id v) id v.val) id (some v.val) false
          else epilogue (acceptCb x id v) false
        else acceptCb x id v
      else if (x.chans id).registered && (x.chans id).queue.isSome then acceptQ x id v
      else dropItem x id v := by
  cases hc : x.cbs id with
  | some wb =>
    simp only [handle, hc, registerAll_with_delivered, registerAll_ioOpen, registerAll_cbLog,
      registerAll_got, registerAll_kept, Option.isSome_some, if_true]
    rw [registerAll_eq]
    rfl
  | none =>
    cases hr : (x.chans id).registered with
    | false => simp only [handle, hc, hr]; rfl
    | true =>
      cases hq : (x.chans id).queue with
      | none => simp only [handle, hc, hr, hq]; rfl
      | some q =>
        simp only [handle, hc, hr, hq, registerAll_with_delivered, registerAll_kept]
        rw [registerAll_eq]
        rfl

theorem handle_exec (fails : Item → Bool) (x : SideSt) (w : Bool) (id : Nat) :
    handle fails x w (.exec id) = if w then execAt x id else x := by
  cases w
  · rfl
  · simp [handle, execAt]

theorem handle_cases (fails : Item → Bool) (x : SideSt) (w : Bool) (f : Frame) {P : SideSt → Prop}
    (cbFail : ∀ id v, f = .data id v → (x.cbs id).isSome = true → fails v = true → x.ioOpen = true →
      P (localClose (writeCloseErr (acceptCb x id v) id v.val) id (some v.val) false))
    (cbEnd : ∀ id v, f = .data id v → (x.cbs id).isSome = true → fails v = true → x.ioOpen = false →
      P (epilogue (acceptCb x id v) false))
    (cbOk : ∀ id v, f = .data id v → (x.cbs id).isSome = true → fails v = false → P (acceptCb x id v))
    (queued : ∀ id v, f = .data id v → x.cbs id = none → (x.chans id).registered = true →
      (x.chans id).queue.isSome = true → P (acceptQ x id v))
    (dropped : ∀ id v, f = .data id v → x.cbs id = none →
      ¬((x.chans id).registered = true ∧ (x.chans id).queue.isSome = true) → P (dropItem x id v))
    (closing : ∀ id err so, f.closeArgs = some (id, err, so) →
      P (localClose { x with closeSeen := upd x.closeSeen id true } id err so))
    (exec : ∀ id, f = .exec id → w = true → P (execAt x id))
    (noExec : ∀ id, f = .exec id → w = false → P x)
    (terminate : f = .terminate → P (epilogue x false)) : P (handle fails x w f) := by
  cases f with
  | data id v =>
    rw [handle_data]
    split
    · next hs =>
      split
      · next hf =>
        split
        · next hio => exact cbFail id v rfl hs hf hio
        · next hio => exact cbEnd id v rfl hs hf (by simpa using hio)
      · next hf => exact cbOk id v rfl hs (by simpa using hf)
    · next hs =>
      have hc : x.cbs id = none := by simpa using hs
      split
      · next h => rw [Bool.and_eq_true] at h; exact queued id v rfl hc h.1 h.2
      · next h => rw [Bool.and_eq_true] at h; exact dropped id v rfl hc h
  | close id => exact closing id none false rfl
  | closeErr id e => exact closing id (some e) false rfl
  | lastMsg id => exact closing id none true rfl
  | exec id =>
    rw [handle_exec]
    cases w
    · exact noExec id rfl rfl
    · exact exec id rfl rfl
  | terminate => exact terminate rfl

theorem handle_untouched (fails : Item → Bool) (x : SideSt) (w : Bool) (f : Frame) :
    (handle fails x w f).count = x.count ∧ (handle fails x w f).sent = x.sent ∧
    (handle fails x w f).cbWants = x.cbWants ∧ (handle fails x w f).gwerr = x.gwerr := by
  apply handle_cases fails x w f
    (P := fun y => y.count = x.count ∧ y.sent = x.sent ∧ y.cbWants = x.cbWants ∧ y.gwerr = x.gwerr) <;>
    intros <;> simp [localClose_eq, epilogue, acceptCb, acceptQ, dropItem, writeCloseErr, execAt]

@[simp] theorem handle_sent (fails : Item → Bool) (x : SideSt) (w : Bool) (f : Frame) :
    (handle fails x w f).sent = x.sent := (handle_untouched fails x w f).2.1
@[simp] theorem handle_cbWants (fails : Item → Bool) (x : SideSt) (w : Bool) (f : Frame) :
    (handle fails x w f).cbWants = x.cbWants := (handle_untouched fails x w f).2.2.1
@[simp] theorem handle_gwerr (fails : Item → Bool) (x : SideSt) (w : Bool) (f : Frame) :
    (handle fails x w f).gwerr = x.gwerr := (handle_untouched fails x w f).2.2.2

@[simp] theorem handle_dataOf_out (fails : Item → Bool) (x : SideSt) (w : Bool) (f : Frame) (k : Nat) :
    dataOf k (handle fails x w f).out = dataOf k x.out := by
  apply handle_cases fails x w f (P := fun y => dataOf k y.out = dataOf k x.out)
  case cbFail => intros; rw [localClose_eq]; simp [writeCloseErr, acceptCb]
  case closing => intros; rw [localClose_eq]
  all_goals intros; rfl

/-- the frame ends the receiver thread: GATEWAY_TERMINATE, or a DATA frame whose callback fails while
the IO is already closed (the CLOSE_ERROR cannot be written; the OSError escapes the handler) -/
def endsReceiver (fails : Item → Bool) (x : SideSt) : Frame → Bool
  | .terminate => true
  | .data id v => (x.cbs id).isSome && fails v && !x.ioOpen
  | _ => false

theorem handle_finished (fails : Item → Bool) (x : SideSt) (w : Bool) (f : Frame) :
    (handle fails x w f).finished = (x.finished || endsReceiver fails x f) := by
  apply handle_cases fails x w f (P := fun y => y.finished = (x.finished || endsReceiver fails x f))
  case cbFail => rintro id v rfl - - hio; rw [localClose_eq]; simp [endsReceiver, hio, writeCloseErr, acceptCb]
  case cbEnd => rintro id v rfl hs hf hio; simp [endsReceiver, hs, hf, hio, epilogue]
  case cbOk => rintro id v rfl - hf; simp [endsReceiver, hf, acceptCb]
  case queued => rintro id v rfl hc - -; simp [endsReceiver, hc, acceptQ]
  case dropped => rintro id v rfl hc -; simp [endsReceiver, hc, dropItem]
  case closing =>
    intro id err so h; rw [localClose_eq]
    obtain rfl | ⟨_, rfl⟩ | rfl := Frame.of_closeArgs h <;> simp [endsReceiver]
  case exec => rintro id rfl -; simp [endsReceiver, execAt]
  case noExec => rintro id rfl -; simp [endsReceiver]
  case terminate => rintro rfl; simp [endsReceiver, epilogue]

end ExecnetVerif.Net
