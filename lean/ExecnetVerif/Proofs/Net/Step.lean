/-
What one operation of `Net.step` does (`step_cases`): it leaves the state alone, or is a `UserStep` on one
side (one constructor per state-changing branch of a user call, the guards of the branch as
hypotheses), or the receiver of one side handling the head frame of the peer's `out`, or a cut (each a `recvMove`).
`rel_step` is the same seen from one side, as a relation between its state before and after.
`step_cases` does not say which operation made the step, and its `same` branch says nothing of the output: a fact
about what a named operation returns unfolds `step` at that operation (as `step_send_refused`, `C18_parity`,
`C04_refuse` do).
-/
import ExecnetVerif.Proofs.Net.Plumbing
namespace ExecnetVerif.Net

/-- the state of side `x` after `setcallback id w` found the queue `q` (before the verdict) -/
def setcbSide (fails : Item → Bool) (x : SideSt) (id : Nat) (w : Bool) (q : List QItem) : SideSt :=
  { x with chans := upd x.chans id { x.chans id with queue := none },
           cbWants := upd x.cbWants id (some w),
           got := upd x.got id (x.got id ++ (drain fails q).1),
           cbLog := upd x.cbLog id (x.cbLog id ++ (drain fails q).1.map .item ++
             (if (drain fails q).2.2 && w then [.endmarker] else [])) }

/-- the closing frame `drop` writes -/
def dropFrame (c : Chan) (id : Nat) : Frame :=
  if c.rclosed then .close id else if c.queue.isNone then .lastMsg id else .close id

theorem dropFrame_eq (c : Chan) (id : Nat) : dropFrame c id = .close id ∨ dropFrame c id = .lastMsg id := by
  unfold dropFrame; split
  · exact .inl rfl
  · split
    · exact .inr rfl
    · exact .inl rfl

@[simp] theorem dataOf_dropFrame (k : Nat) (c : Chan) (id : Nat) : dataOf k [dropFrame c id] = [] := by
  rcases dropFrame_eq c id with h | h <;> rw [h] <;> rfl

-- `x` is the same in every constructor and therefore a parameter (Lean promotes it): a new index goes after it
-- and a new binder after the guards, or the pattern of every `cases … with` on a `UserStep` shifts
inductive UserStep (fails : Item → Bool) : SideSt → Out → SideSt → Prop
  | newchannel (x : SideSt) : x.finished = false →
      UserStep fails x (.chan x.count) { createAt x x.count with count := x.count + 2 }
  | remoteExecFail (x : SideSt) : x.finished = false → x.ioOpen = false →
      UserStep fails x .osError { x with count := x.count + 2 }
  | remoteExec (x : SideSt) : x.finished = false → x.ioOpen = true →
      UserStep fails x (.chan x.count) { createAt x x.count with count := x.count + 2, out := x.out ++ [.exec x.count] }
  | send (x : SideSt) (id : Nat) (v : Item) : (x.chans id).alive = true →
      (∀ k ∈ v.chans, (x.chans k).alive = true) → (x.chans id).closed = false → x.ioOpen = true →
      UserStep fails x .ok { x with out := x.out ++ [.data id v], sent := upd x.sent id (x.sent id ++ [v]) }
  | close (x : SideSt) (id : Nat) (err : Option Nat) : (x.chans id).alive = true →
      UserStep fails x (chanClose x id err).1 (chanClose x id err).2
  | recvItem (x : SideSt) (id : Nat) (v : Item) (q : List QItem) : (x.chans id).alive = true →
      (x.chans id).queue = some (.item v :: q) →
      UserStep fails x (.item v) { x with
        chans := upd x.chans id { x.chans id with queue := some q }, got := upd x.got id (x.got id ++ [v]) }
  | recvErr (x : SideSt) (id : Nat) (q : List QItem) (e : Nat) (es : List Nat) : (x.chans id).alive = true →
      (x.chans id).queue = some (.endmarker :: q) → (x.chans id).rerrs = e :: es →
      UserStep fails x (.remoteError e) { x with
        chans := upd x.chans id { x.chans id with queue := some (q ++ [.endmarker]), rerrs := es } }
  | recvEof (x : SideSt) (id : Nat) (q : List QItem) : (x.chans id).alive = true →
      (x.chans id).queue = some (.endmarker :: q) → (x.chans id).rerrs = [] →
      UserStep fails x .eofError { x with
        chans := upd x.chans id { x.chans id with queue := some (q ++ [.endmarker]) } }
  | waitErr (x : SideSt) (id : Nat) (e : Nat) (es : List Nat) : (x.chans id).alive = true →
      (x.chans id).rclosed = true → (x.chans id).rerrs = e :: es →
      UserStep fails x (.remoteError e) { x with chans := upd x.chans id { x.chans id with rerrs := es } }
  | setcbRaised (x : SideSt) (id : Nat) (w : Bool) (q : List QItem) : (x.chans id).alive = true →
      (x.chans id).queue = some q → (drain fails q).2.1 = true →
      UserStep fails x .cbRaised { setcbSide fails x id w q with broken := upd x.broken id true }
  | setcbDone (x : SideSt) (id : Nat) (w : Bool) (q : List QItem) : (x.chans id).alive = true →
      (x.chans id).queue = some q → (drain fails q).2.1 = false →
      ((drain fails q).2.2 = true ∨ ((x.chans id).closed || (x.chans id).rclosed) = true) →
      UserStep fails x .ok (setcbSide fails x id w q)
  | setcbReg (x : SideSt) (id : Nat) (w : Bool) (q : List QItem) : (x.chans id).alive = true →
      (x.chans id).queue = some q → (drain fails q).2.1 = false → (drain fails q).2.2 = false →
      ((x.chans id).closed || (x.chans id).rclosed) = false →
      UserStep fails x .ok { setcbSide fails x id w q with cbs := upd x.cbs id (some w) }
  | dropQuiet (x : SideSt) (id : Nat) : (x.chans id).alive = true → (x.chans id).executing = false →
      ((x.chans id).closed || !x.ioOpen) = true →
      UserStep fails x .ok { x with chans := upd x.chans id { x.chans id with alive := false, registered := false } }
  | dropFrame (x : SideSt) (id : Nat) : (x.chans id).alive = true → (x.chans id).executing = false →
      ((x.chans id).closed || !x.ioOpen) = false →
      UserStep fails x .ok { x with
        chans := upd x.chans id { x.chans id with alive := false, registered := false },
        out := x.out ++ [dropFrame (x.chans id) id], closeSent := upd x.closeSent id true }
  -- the worker's call of `Channel.close` when the executed task ends
  | execFinish (x : SideSt) (id : Nat) (err : Option Nat) : (x.chans id).executing = true →
      UserStep fails x
        (chanClose { x with chans := upd x.chans id { x.chans id with executing := false } } id err).1
        (chanClose { x with chans := upd x.chans id { x.chans id with executing := false } } id err).2

/-- the peer of a receiver that handled a frame or was cut: the frame is consumed; if the receiver
ended, the peer's IO is closed -/
def peerAfter (y : SideSt) (rest : List Frame) (ended : Bool) : SideSt :=
  { y with out := rest, ioOpen := y.ioOpen && !ended }

/-- the receiver of side `p` ends in `x'` and leaves `rest` of the peer's frames -/
def recvMove (st : State) (p : Side) (x' : SideSt) (rest : List Frame) : State :=
  (st.set p x').set p.peer (peerAfter (st.side p.peer) rest x'.finished)

theorem step_deliver (fails : Item → Bool) (st : State) (p : Side) (f : Frame) (rest : List Frame)
    (hf : (st.side p).finished = false) (ho : (st.side p.peer).out = f :: rest) :
    step fails st (.deliver p) = (.ok, recvMove st p (handle fails (st.side p) (p == .B) f) rest) := by
  simp only [step, hf, ho, State.side_peer_set, State.side_set_peer, State.side_set_same, recvMove, peerAfter]
  cases (handle fails (st.side p) (p == .B) f).finished <;> cases p <;> simp [State.set]

theorem step_cut (fails : Item → Bool) (st : State) (p : Side) (hf : (st.side p).finished = false) :
    step fails st (.cut p) = (.ok, recvMove st p (epilogue (st.side p) true) (st.side p.peer).out) := by
  simp only [step, hf, recvMove, peerAfter]
  cases p <;> simp [State.set, epilogue]

theorem step_deliver_idle (fails : Item → Bool) (st : State) (p : Side)
    (h : (st.side p).finished = true ∨ (st.side p.peer).out = []) : step fails st (.deliver p) = (.notEnabled, st) := by
  cases h with
  | inl h => simp only [step, h, if_true]
  | inr h => simp only [step, h, ite_self]

theorem step_cut_idle (fails : Item → Bool) (st : State) (p : Side) (h : (st.side p).finished = true) :
    step fails st (.cut p) = (.notEnabled, st) := by
  simp only [step, h, if_true]

theorem step_cases (fails : Item → Bool) (st : State) (op : Op) {P : Out × State → Prop}
    -- the branches that leave the state alone hand out no id
    (same : ∀ o, (∀ id, o ≠ .chan id) → P (o, st))
    (user : ∀ s o x', UserStep fails (st.side s) o x' → P (o, st.set s x'))
    (deliver : ∀ p f rest, (st.side p).finished = false → (st.side p.peer).out = f :: rest →
      P (.ok, (st.set p (handle fails (st.side p) (p == .B) f)).set p.peer
        (peerAfter (st.side p.peer) rest (handle fails (st.side p) (p == .B) f).finished)))
    (cut : ∀ p, (st.side p).finished = false →
      P (.ok, (st.set p (epilogue (st.side p) true)).set p.peer
        (peerAfter (st.side p.peer) (st.side p.peer).out true))) :
    P (step fails st op) := by
  cases op with
  | newchannel s =>
    simp only [step]; split
    · exact same _ (by simp)
    · next h => exact user s _ _ (.newchannel _ (by simpa using h))
  | remoteExec =>
    simp only [step]; split
    · exact same _ (by simp)
    · next h =>
      split
      · next hio => exact user .A _ _ (.remoteExecFail _ (by simpa using h) (by simpa using hio))
      · next hio => exact user .A _ _ (.remoteExec _ (by simpa using h) (by simpa using hio))
  | send s id v =>
    simp only [step]; split
    · exact same _ (by simp)
    · next h1 =>
      simp only [Bool.or_eq_true, Bool.not_eq_eq_eq_not, Bool.not_true, not_or, Bool.not_eq_false,
        List.all_eq_true] at h1
      split
      · exact same _ (by simp)
      · next h2 =>
        split
        · exact same _ (by simp)
        · next h3 => exact user s _ _ (.send _ id v h1.1 h1.2 (by simpa using h2) (by simpa using h3))
  | close s id err =>
    simp only [step]; split
    · exact same _ (by simp)
    · next h => exact user s _ _ (.close _ id err (by simpa using h))
  | receive s id =>
    simp only [step]; split
    · exact same _ (by simp)
    · next h =>
      have ha : ((st.side s).chans id).alive = true := by simpa using h
      split
      · exact same _ (by simp)
      · exact same _ (by simp)
      · next v q hq => exact user s _ _ (.recvItem _ id v q ha hq)
      · next q hq =>
        split
        · next e es he => exact user s _ _ (.recvErr _ id q e es ha hq he)
        · next he => exact user s _ _ (.recvEof _ id q ha hq he)
  | waitclose s id =>
    simp only [step]; split
    · exact same _ (by simp)
    · next h =>
      split
      · exact same _ (by simp)
      · next hr =>
        split
        · next e es he => exact user s _ _ (.waitErr _ id e es (by simpa using h) (by simpa using hr) he)
        · split <;> exact same _ (by simp)
  | setcallback s id w =>
    simp only [step]; split
    · exact same _ (by simp)
    · next h =>
      split
      · exact same _ (by simp)
      · next q hq =>
        have ha : ((st.side s).chans id).alive = true := by simpa using h
        split
        · next hr => exact user s _ _ (.setcbRaised _ id w q ha hq hr)
        · next hr =>
          split
          · next he => exact user s _ _ (.setcbDone _ id w q ha hq (by simpa using hr) (.inl he))
          · next he =>
            split
            · next hc => exact user s _ _ (.setcbDone _ id w q ha hq (by simpa using hr) (.inr hc))
            · next hc =>
              exact user s _ _ (.setcbReg _ id w q ha hq (by simpa using hr) (by simpa using he) (by simpa using hc))
  | drop s id =>
    simp only [step]; split
    · exact same _ (by simp)
    · next h =>
      simp only [Bool.or_eq_true, Bool.not_eq_eq_eq_not, Bool.not_true, not_or, Bool.not_eq_false,
        Bool.not_eq_true] at h
      split
      · next hc => exact user s _ _ (.dropQuiet _ id h.1 h.2 hc)
      · next hc => exact user s _ _ (.dropFrame _ id h.1 h.2 (by simpa using hc))
  | isclosed s id => simp only [step]; split <;> exact same _ (by simp)
  | deliver p =>
    cases hf : (st.side p).finished with
    | true => rw [step_deliver_idle _ _ _ (.inl hf)]; exact same _ (by simp)
    | false =>
      cases ho : (st.side p.peer).out with
      | nil => rw [step_deliver_idle _ _ _ (.inr ho)]; exact same _ (by simp)
      | cons f rest => rw [step_deliver _ _ _ f rest hf ho]; exact deliver p f rest hf ho
  | execFinish id o =>
    simp only [step]; split
    · exact same _ (by simp)
    · next h => exact user .B _ _ (.execFinish _ id _ (by simpa using h))
  | cut p =>
    cases hf : (st.side p).finished with
    | true => rw [step_cut_idle _ _ _ hf]; exact same _ (by simp)
    | false => rw [step_cut _ _ _ hf]; exact cut p hf

/-- fields the receiver thread owns -/
structure SideSt.RecvSame (x x' : SideSt) : Prop where
  delivered : x'.delivered = x.delivered
  closeSeen : x'.closeSeen = x.closeSeen
  finished : x'.finished = x.finished

theorem UserStep.recvSame {fails : Item → Bool} {x x' : SideSt} {o : Out} (h : UserStep fails x o x') :
    x.RecvSame x' := by
  cases h with
  | close | execFinish => rw [chanClose_snd]; split <;> exact ⟨rfl, rfl, rfl⟩
  | _ => exact ⟨rfl, rfl, rfl⟩

/-- `R x x' := I x → I x'` gives invariant preservation, `R x x' := x.finished = true → x'.finished = true`
monotonicity -/
theorem rel_step {R : SideSt → SideSt → Prop} (fails : Item → Bool) (st : State) (op : Op)
    (refl : ∀ x, R x x)
    (user : ∀ x o x', UserStep fails x o x' → R x x')
    (recv : ∀ x w f, x.finished = false → R x (handle fails x w f))
    (cut : ∀ x, x.finished = false → R x (epilogue x true))
    (peer : ∀ y rest e, rest <:+ y.out → R y (peerAfter y rest e)) (t : Side) :
    R (st.side t) ((step fails st op).2.side t) := by
  refine step_cases (P := fun r => R (st.side t) (r.2.side t)) fails st op (fun _ _ => refl _)
    (fun s o x' hu => ?_) (fun p f rest hf ho => ?_) (fun p hf => ?_)
  · rcases Side.self_or_peer s t with rfl | rfl
    · rw [State.side_set_same]; exact user _ _ _ hu
    · rw [State.side_set_peer]; exact refl _
  · rcases Side.self_or_peer p t with rfl | rfl
    · rw [State.side_peer_set, State.side_set_same]; exact recv _ _ _ hf
    · rw [State.side_set_same]; exact peer _ _ _ (ho ▸ List.suffix_cons f rest)
  · rcases Side.self_or_peer p t with rfl | rfl
    · rw [State.side_peer_set, State.side_set_same]; exact cut _ hf
    · rw [State.side_set_same]; exact peer _ _ _ (List.suffix_refl _)

theorem step_send_refused {fails : Item → Bool} {st : State} {s : Side} {id : Nat} (v : Item)
    (h : ((st.side s).chans id).closed = true ∨ ((st.side s).chans id).alive = false ∨
      (st.side s).ioOpen = false) :
    (step fails st (.send s id v)).1 = .osError ∨ (step fails st (.send s id v)).1 = .notEnabled := by
  simp only [step]; split
  · exact .inr rfl
  · next h1 =>
    split
    · exact .inl rfl
    · next h2 =>
      split
      · exact .inl rfl
      · next h3 =>
        rcases h with h | h | h
        · exact absurd h h2
        · simp [h] at h1
        · simp [h] at h3

theorem step_waitclose_of_rclosed {fails : Item → Bool} {st : State} {p : Side} {id : Nat}
    (ha : ((st.side p).chans id).alive = true) (hr : ((st.side p).chans id).rclosed = true) :
    (step fails st (.waitclose p id)).1 ≠ .wouldBlock := by
  simp only [step, ha, hr, Bool.not_true, Bool.false_eq_true, if_false, ne_eq]
  split
  · simp
  · split <;> simp

theorem step_waitclose_remoteError {fails : Item → Bool} {st : State} {p : Side} {id e : Nat}
    (h : (step fails st (.waitclose p id)).1 = .remoteError e) :
    ((st.side p).chans id).rerrs = e :: (((step fails st (.waitclose p id)).2.side p).chans id).rerrs := by
  generalize hr : step fails st (.waitclose p id) = r at h ⊢
  simp only [step] at hr
  split at hr
  · subst hr; cases h
  · split at hr
    · subst hr; cases h
    · split at hr
      · next e' es he => subst hr; cases h; simp [he]
      · split at hr <;> (subst hr; cases h)

theorem step_receive_remoteError {fails : Item → Bool} {st : State} {p : Side} {id e : Nat}
    (h : (step fails st (.receive p id)).1 = .remoteError e) :
    ((st.side p).chans id).rerrs = e :: (((step fails st (.receive p id)).2.side p).chans id).rerrs := by
  generalize hr : step fails st (.receive p id) = r at h ⊢
  simp only [step] at hr
  split at hr
  · subst hr; cases h
  · split at hr
    · subst hr; cases h
    · subst hr; cases h
    · subst hr; cases h
    · split at hr
      · next e' es he => subst hr; cases h; simp [he]
      · subst hr; cases h

end ExecnetVerif.Net
