/-
Net invariant G8 (`IdInv`): every id either side knows is below the counter of the side that allocates
its parity.  C18: the ids handed out have the parity of their side (from G8) and are pairwise distinct
(from what one step does to the two counters, `CountStep`, by induction from any start state).
-/
import ExecnetVerif.Proofs.Net.Shape
namespace ExecnetVerif.Net

/-- the channel ids a frame makes its receiver create records for -/
def Frame.ids : Frame → List Nat
  | .data _ v => v.chans
  | .exec id => [id]
  | _ => []

@[simp] theorem handle_count (fails : Item → Bool) (x : SideSt) (w : Bool) (f : Frame) :
    (handle fails x w f).count = x.count := (handle_untouched fails x w f).1

theorem UserStep.count {fails : Item → Bool} {x x' : SideSt} {o : Out} (h : UserStep fails x o x') :
    x'.count = x.count ∨ x'.count = x.count + 2 := by
  cases h with
  | newchannel | remoteExecFail | remoteExec => exact .inr rfl
  | close | execFinish => exact .inl (chanClose_count ..)
  | _ => exact .inl rfl

/-- the counter of the side that allocates ids of `k`'s parity -/
def idBound (st : State) (k : Nat) : Nat := if k % 2 = 1 then st.a.count else st.b.count

/-- the channel ids a side knows: those of its created records and those inside the frames it wrote
that are still in flight -/
def SideSt.Knows (x : SideSt) (k : Nat) : Prop :=
  (x.chans k).created = true ∨ ∃ f ∈ x.out, k ∈ f.ids

/-- strengthening of `IdInv`: *every* id either side knows is below the counter of the side that
allocates its parity -/
def IdAux (st : State) : Prop :=
  st.a.count % 2 = 1 ∧ st.b.count % 2 = 0 ∧ ∀ t k, (st.side t).Knows k → k < idBound st k

theorem IdAux.toIdInv {st : State} (h : IdAux st) : IdInv st := by
  obtain ⟨ha, hb, hc⟩ := h
  refine ⟨ha, hb, fun id h1 h2 => ?_, fun id h1 h2 => ?_⟩
  · have := hc .A id (.inl h1); simpa [idBound, h2] using this
  · have := hc .B id (.inl h1); simpa [idBound, h2] using this

theorem IdAux_init : IdAux init := by
  refine ⟨rfl, rfl, fun t k h => ?_⟩
  cases t <;> simp [SideSt.Knows, init, initSide] at h

theorem IdAux_intro {st st' : State} (h : IdAux st)
    (ha : st'.a.count = st.a.count ∨ st'.a.count = st.a.count + 2)
    (hb : st'.b.count = st.b.count ∨ st'.b.count = st.b.count + 2)
    (hk : ∀ t k, (st'.side t).Knows k → (∃ t', (st.side t').Knows k) ∨ k < idBound st' k) : IdAux st' := by
  obtain ⟨pa, pb, hc⟩ := h
  refine ⟨by omega, by omega, fun t k hkn => ?_⟩
  rcases hk t k hkn with ⟨t', h'⟩ | h'
  · refine Nat.lt_of_lt_of_le (hc t' k h') ?_
    unfold idBound; split <;> omega
  · exact h'

theorem IdAux_set {st : State} {s : Side} {x' : SideSt} (h : IdAux st)
    (hk : ∀ k, x'.Knows k → (∃ t, (st.side t).Knows k) ∨
      (x'.count = (st.side s).count + 2 ∧ k = (st.side s).count))
    (hc : x'.count = (st.side s).count ∨ x'.count = (st.side s).count + 2) : IdAux (st.set s x') := by
  refine IdAux_intro h ?_ ?_ fun t k hkn => ?_
  · cases s
    · exact hc
    · exact .inl rfl
  · cases s
    · exact .inl rfl
    · exact hc
  · rcases Side.self_or_peer s t with rfl | rfl
    · rw [State.side_set_same] at hkn
      rcases hk k hkn with h1 | ⟨h1, rfl⟩
      · exact .inl h1
      · right
        cases s
        · have h1 : x'.count = st.a.count + 2 := h1
          simp [idBound, h.1, h1]
        · have h1 : x'.count = st.b.count + 2 := h1
          have : ¬ st.b.count % 2 = 1 := by have := h.2.1; omega
          simp [idBound, this, h1]
    · rw [State.side_set_peer] at hkn; exact .inl ⟨_, hkn⟩

/-- an update of one side that neither allocates ids nor creates records nor writes ids -/
structure SideSt.IdQuiet (x x' : SideSt) : Prop where
  count : x'.count = x.count
  created : ∀ k, (x'.chans k).created = (x.chans k).created
  alive : ∀ k, (x'.chans k).alive = true → (x.chans k).alive = true
  out : ∀ f ∈ x'.out, f ∈ x.out ∨ f.ids = []

theorem SideSt.IdQuiet.refl (x : SideSt) : x.IdQuiet x := ⟨rfl, fun _ => rfl, fun _ h => h, fun _ h => .inl h⟩

theorem SideSt.Knows.mono {x x' : SideSt} {k : Nat} (h : x'.Knows k)
    (hc : (x'.chans k).created = true → (x.chans k).created = true)
    (ho : ∀ f ∈ x'.out, f ∈ x.out ∨ f.ids = []) : x.Knows k := by
  rcases h with h | ⟨f, hf, hk⟩
  · exact .inl (hc h)
  · rcases ho f hf with h1 | h1
    · exact .inr ⟨f, h1, hk⟩
    · rw [h1] at hk; cases hk

theorem SideSt.Knows.of_upd {x x' : SideSt} {id k : Nat} {c' : Chan} (h : x'.Knows k)
    (hch : x'.chans = upd x.chans id c') (hcr : c'.created = (x.chans id).created)
    (ho : ∀ f ∈ x'.out, f ∈ x.out ∨ f.ids = []) : x.Knows k :=
  h.mono (by rw [hch, upd_proj Chan.created hcr k]; exact fun h => h) ho

theorem mem_concat_ids {l : List Frame} {g f : Frame} (hg : g.ids = []) (hf : f ∈ l ++ [g]) :
    f ∈ l ∨ f.ids = [] := by
  rcases List.mem_append.1 hf with h | h
  · exact .inl h
  · exact .inr (List.mem_singleton.1 h ▸ hg)

/-- `y` arises from `x` by registering `ids` and changes that create no records and write no ids -/
theorem SideSt.Knows.of_registerAll {x y : SideSt} {ids : List Nat} {k : Nat} (h : y.Knows k)
    (hc : (y.chans k).created = true → ((registerAll x ids).chans k).created = true)
    (ho : ∀ f ∈ y.out, f ∈ x.out ∨ f.ids = []) : x.Knows k ∨ k ∈ ids := by
  rcases h with h | ⟨f, hf, hk⟩
  · have h := hc h
    rw [registerAll_chans] at h; split at h
    · exact .inr ‹_›
    · exact .inl (.inl h)
  · rcases ho f hf with h1 | h1
    · exact .inl (.inr ⟨f, h1, hk⟩)
    · rw [h1] at hk; cases hk

/-- a `send` writes ids of live records only, and those are created by the shape -/
theorem UserStep.knows {fails : Item → Bool} {x x' : SideSt} {o : Out} (hu : UserStep fails x o x')
    (hS : SideShape x) (k : Nat) (h : x'.Knows k) :
    x.Knows k ∨ (x'.count = x.count + 2 ∧ k = x.count) := by
  have closed : ∀ y id err, (chanClose y id err).2.Knows k → y.Knows k := fun y id err h =>
    h.mono (by rw [chanClose_chans_created]; exact fun h => h) fun f hf => by
      rcases chanClose_out y id err with e | e <;> rw [e] at hf
      · exact .inl hf
      · exact mem_concat_ids (by cases err <;> rfl) hf
  have created : (upd x.chans x.count (createChan (x.chans x.count)) k).created = true →
      (x.chans k).created = true ∨ k = x.count := fun h => by
    rw [upd_apply] at h; split at h
    · exact .inr ‹_›
    · exact .inl h
  cases hu with
  | newchannel =>
    rcases h with h | h
    · exact (created h).imp .inl fun e => ⟨rfl, e⟩
    · exact .inl (.inr h)
  | remoteExec =>
    rcases h with h | ⟨f, hf, hk⟩
    · exact (created h).imp .inl fun e => ⟨rfl, e⟩
    · rcases List.mem_append.1 hf with hf | hf
      · exact .inl (.inr ⟨f, hf, hk⟩)
      · rw [List.mem_singleton.1 hf] at hk; exact .inr ⟨rfl, List.mem_singleton.1 hk⟩
  | remoteExecFail => exact .inl h
  | send id v _ hall =>
    rcases h with h | ⟨f, hf, hk⟩
    · exact .inl (.inl h)
    · rcases List.mem_append.1 hf with hf | hf
      · exact .inl (.inr ⟨f, hf, hk⟩)
      · rw [List.mem_singleton.1 hf] at hk; exact .inl (.inl ((hS k).created_of_alive (hall k hk)))
  | close id err => exact .inl (closed _ _ _ h)
  | execFinish id err => exact .inl ((closed _ _ _ h).of_upd rfl rfl fun _ hf => .inl hf)
  | dropFrame id =>
    exact .inl (h.of_upd rfl rfl fun f hf =>
      mem_concat_ids (by rcases dropFrame_eq (x.chans id) id with e | e <;> rw [e] <;> rfl) hf)
  | _ => exact .inl (h.of_upd rfl rfl fun _ hf => .inl hf)

theorem handle_knows (fails : Item → Bool) (x : SideSt) (w : Bool) (f : Frame) (k : Nat) :
    (handle fails x w f).Knows k → x.Knows k ∨ k ∈ f.ids := by
  apply handle_cases fails x w f (P := fun y => y.Knows k → x.Knows k ∨ k ∈ f.ids)
  case cbFail =>
    rintro id v rfl - - - h
    exact h.of_registerAll (by rw [localClose_chans_created]; exact fun h => h)
      fun g hg => by rw [localClose_eq] at hg; exact mem_concat_ids rfl hg
  case cbEnd =>
    rintro id v rfl - - - h
    exact h.of_registerAll (by rw [epilogue_chans_created]; exact fun h => h) fun _ hg => .inl hg
  case cbOk => rintro id v rfl - - h; exact h.of_registerAll (fun h => h) fun _ hg => .inl hg
  case queued =>
    rintro id v rfl - - - h
    have e := upd_proj Chan.created (f := (registerAll x v.chans).chans) (k := id)
      (v := { (registerAll x v.chans).chans id with
        queue := ((registerAll x v.chans).chans id).queue.map (· ++ [.item v]) }) rfl k
    exact h.of_registerAll (fun h => e ▸ h) fun _ hg => .inl hg
  case dropped => exact fun _ _ _ _ _ h => .inl h
  case closing =>
    exact fun _ _ _ _ h => .inl (h.mono (by rw [localClose_chans_created]; exact fun h => h)
      fun g hg => .inl (by rw [localClose_eq] at hg; exact hg))
  case exec =>
    rintro id rfl - (h | h)
    · have h : (upd x.chans id { createChan (x.chans id) with executing := true } k).created = true := h
      rw [upd_apply] at h; split at h
      · exact .inr (List.mem_singleton.2 ‹_›)
      · exact .inl (.inl h)
    · exact .inl (.inr h)
  case noExec => exact fun _ _ _ h => .inl h
  case terminate =>
    exact fun _ h => .inl (h.mono (by rw [epilogue_chans_created]; exact fun h => h) fun _ hg => .inl hg)

theorem IdAux_step (fails : Item → Bool) (st : State) (op : Op) (hS : ShapeInv st) (h : IdAux st) :
    IdAux (step fails st op).2 := by
  refine step_cases (P := fun r => IdAux r.2) fails st op (fun _ _ => h) (fun s o x' hu => ?_)
    (fun p f rest _ ho => ?_) (fun p _ => ?_)
  · exact IdAux_set h (fun k hk => (hu.knows (hS s) k hk).imp_left fun h => ⟨s, h⟩) hu.count
  · -- the receiver first (the frame is still in the peer's `out`, so the peer knows its ids), then the pop
    have key : IdAux (st.set p (handle fails (st.side p) (p == .B) f)) := by
      refine IdAux_set h (fun k hk => .inl ?_) (.inl (handle_count ..))
      rcases handle_knows fails _ _ f k hk with h1 | h1
      · exact ⟨p, h1⟩
      · exact ⟨p.peer, .inr ⟨f, by rw [ho]; exact List.mem_cons_self, h1⟩⟩
    refine IdAux_set key (fun k hk => .inl ⟨p.peer, ?_⟩) (.inl (by rw [State.side_set_peer]; rfl))
    rw [State.side_set_peer]
    exact hk.mono (fun h => h) fun g hg => .inl (by rw [ho]; exact List.mem_cons_of_mem _ hg)
  · have key : IdAux (st.set p (epilogue (st.side p) true)) :=
      IdAux_set h (fun k hk => .inl ⟨p, hk.mono (by rw [epilogue_chans_created]; exact fun h => h)
        fun _ hg => .inl hg⟩) (.inl rfl)
    exact IdAux_set key (fun k hk => .inl ⟨p.peer, by rw [State.side_set_peer]; exact hk⟩)
      (.inl (by rw [State.side_set_peer]; rfl))

theorem IdAux_reachable {fails : Item → Bool} {st : State} (h : Reachable fails st) : IdAux st :=
  Reachable.induction (P := IdAux) IdAux_init
    (fun st op hr hi => IdAux_step fails st op (ShapeInv_reachable hr) hi) st h

theorem IdInv_reachable {fails : Item → Bool} {st : State} (h : Reachable fails st) : IdInv st :=
  (IdAux_reachable h).toIdInv

/-- what one operation does to the two id counters and which id it can hand out — from ANY state -/
structure CountStep (st : State) (r : Out × State) : Prop where
  chan : ∀ id, r.1 = .chan id →
    (id = st.a.count ∧ r.2.a.count = id + 2 ∧ r.2.b.count = st.b.count) ∨
    (id = st.b.count ∧ r.2.b.count = id + 2 ∧ r.2.a.count = st.a.count)
  a : r.2.a.count = st.a.count ∨ r.2.a.count = st.a.count + 2
  b : r.2.b.count = st.b.count ∨ r.2.b.count = st.b.count + 2

theorem CountStep.same {st : State} {o : Out} {st' : State} (ho : ∀ id, o ≠ .chan id)
    (ha : st'.a.count = st.a.count) (hb : st'.b.count = st.b.count) : CountStep st (o, st') :=
  ⟨fun id h => absurd h (ho id), .inl ha, .inl hb⟩

theorem CountStep.set {st : State} {o : Out} {s : Side} {x' : SideSt} (ho : ∀ id, o ≠ .chan id)
    (h : x'.count = (st.side s).count) : CountStep st (o, st.set s x') := by
  cases s
  · exact .same ho h rfl
  · exact .same ho rfl h

theorem chanClose_fst_ne_chan (x : SideSt) (id : Nat) (err : Option Nat) (k : Nat) :
    (chanClose x id err).1 ≠ .chan k := by
  simp only [chanClose]; split
  · simp
  · split
    · simp
    · rw [doClose_eq]; split <;> simp

theorem step_count (fails : Item → Bool) (st : State) (op : Op) : CountStep st (step fails st op) := by
  refine step_cases (P := CountStep st) fails st op (fun o ho => .same ho rfl rfl) (fun s o x' hu => ?_)
    (fun p f rest _ _ => ?_) (fun p _ => ?_)
  · cases hu with
    | newchannel | remoteExec => cases s <;> exact ⟨fun id h => by simp at h; simp [h], by simp, by simp⟩
    | remoteExecFail => cases s <;> exact ⟨fun id h => by simp at h, by simp, by simp⟩
    | close | execFinish => exact .set (chanClose_fst_ne_chan _ _ _) (by simp)
    | _ => exact .set (by simp) rfl
  · cases p <;> exact .same (by simp) (by simp [peerAfter]) (by simp [peerAfter])
  · cases p <;> exact .same (by simp) (by simp [peerAfter]) (by simp [peerAfter])

theorem chanOut_eq_some {o : Out} {id : Nat} (h : chanOut o = some id) : o = .chan id := by
  cases o <;> simp_all [chanOut]

/-- C18 generalised over the start state, so that it is inductive -/
theorem run_chan_ids (fails : Item → Bool) (ops : List Op) : ∀ (st : State),
    st.a.count % 2 = 1 → st.b.count % 2 = 0 →
    ((run fails st ops).1.filterMap chanOut).Nodup ∧
    ∀ id ∈ (run fails st ops).1.filterMap chanOut,
      (id % 2 = 1 ∧ st.a.count ≤ id) ∨ (id % 2 = 0 ∧ st.b.count ≤ id) := by
  induction ops with
  | nil => intro st _ _; simp [run]
  | cons op t ih =>
    intro st pa pb
    have hs := step_count fails st op
    have ha := hs.a
    have hb := hs.b
    obtain ⟨ih1, ih2⟩ := ih (step fails st op).2 (by omega) (by omega)
    simp only [run, List.filterMap_cons]
    cases ho : chanOut (step fails st op).1 with
    | none => exact ⟨ih1, fun k hk => by have := ih2 k hk; omega⟩
    | some id =>
      have hc := hs.chan id (chanOut_eq_some ho)
      simp only [List.nodup_cons, List.mem_cons, forall_eq_or_imp]
      refine ⟨⟨fun hmem => ?_, ih1⟩, by omega, fun k hk => ?_⟩
      · have := ih2 id hmem; omega
      · have := ih2 k hk; omega

theorem C18_distinct_ids (fails : Item → Bool) (ops : List Op) :
    ((run fails init ops).1.filterMap chanOut).Nodup :=
  (run_chan_ids fails ops init rfl rfl).1

theorem C18_parity {fails : Item → Bool} {st st' : State} {s : Side} {id : Nat}
    (h : step fails st (.newchannel s) = (.chan id, st')) (hr : Reachable fails st) :
    id % 2 = (if s = .A then 1 else 0) := by
  obtain ⟨pa, pb, -, -⟩ := IdInv_reachable hr
  simp only [step] at h
  split at h
  · simp at h
  · simp only [Prod.mk.injEq, Out.chan.injEq] at h
    cases s <;> simp [← h.1, pa, pb]

theorem C18_parity_remote_exec {fails : Item → Bool} {st st' : State} {id : Nat}
    (h : step fails st .remoteExec = (.chan id, st')) (hr : Reachable fails st) : id % 2 = 1 := by
  obtain ⟨pa, -, -, -⟩ := IdInv_reachable hr
  simp only [step] at h
  split at h
  · cases h
  · split at h
    · cases h
    · cases h; exact pa

end ExecnetVerif.Net
