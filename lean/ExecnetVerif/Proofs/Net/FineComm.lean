/-
One put-back commutes with every coarse step that respects it (`Comm`).  One-sided operations are lifted from
`sideStep`.  An enabled `deliver` or `cut` is a receiver move `recvMove st p x' rest` (`x'` = the receiver's side after
`handle` resp. `epilogue`); a put-back commutes with a receiver move whose `x'` it commutes with (`recvMove_putBack`).
-/
import ExecnetVerif.Proofs.Net.FineSideStep
namespace ExecnetVerif.Net.Fine
open ExecnetVerif.Net

/-- what a coarse operation has to respect for the put-back of key `k` to commute with it -/
def Comm (st : State) (k : Side × Nat) : Op → Prop
  | .deliver p => p = k.1 → ((st.side p).chans k.2).registered = false ∧
      ∀ fr rest, (st.side p.peer).out = fr :: rest → frameAvoids k.2 fr
  | .cut _ => True
  | op => opSide op = k.1 → SideComm (st.side k.1) k.2 op

theorem putBack_A (a b : SideSt) (id : Nat) : putBack ⟨a, b⟩ (.A, id) = ⟨pb a id, b⟩ := putBack_eq ⟨a, b⟩ .A id
theorem putBack_B (a b : SideSt) (id : Nat) : putBack ⟨a, b⟩ (.B, id) = ⟨a, pb b id⟩ := putBack_eq ⟨a, b⟩ .B id

theorem step_putBack_oneSided (fails : Item → Bool) (st : State) (s : Side) (id : Nat) (op : Op)
    (h1 : oneSided op = true) (h : opSide op = s → SideComm (st.side s) id op) :
    step fails (putBack st (s, id)) op = ((step fails st op).1, putBack (step fails st op).2 (s, id)) := by
  rw [step_eq_sideStep fails _ op h1, step_eq_sideStep fails st op h1]
  simp only [putBack_eq, liftRes]
  by_cases hs : opSide op = s
  · subst hs
    simp only [State.side_set_same, State.set_set_same]
    rw [sideStep_pb fails _ id op (h rfl)]; rfl
  · rw [State.side_set_of_ne _ _ hs, State.side_set_of_ne _ _ (Ne.symm hs), set_set_comm _ _ _ (Ne.symm hs)]

theorem step_handOK_oneSided (fails : Item → Bool) (st : State) (s : Side) (id : Nat) (op : Op)
    (h1 : oneSided op = true) (hc : opSide op = s → SideComm (st.side s) id op) (hd : op ≠ .drop s id)
    (h : HandOK ((st.side s).chans id)) : HandOK (((step fails st op).2.side s).chans id) := by
  rw [step_eq_sideStep fails st op h1]
  simp only [liftRes]
  by_cases hs : opSide op = s
  · subst hs
    rw [State.side_set_same]
    exact sideStep_handOK fails _ id op (hc rfl) (fun s' e => hd (by subst e; rfl)) h
  · rw [State.side_set_of_ne _ _ (Ne.symm hs)]; exact h

theorem putBack_side (st : State) (k : Side × Nat) (s : Side) :
    (putBack st k).side s = if s = k.1 then pb (st.side s) k.2 else st.side s := by
  obtain ⟨p, id⟩ := k
  rw [putBack_eq, State.side_set]
  split
  · next h => subst h; rfl
  · rfl

theorem putBack_blind {α : Type} (Q : SideSt → α) (hQ : ∀ x id, Q (pb x id) = Q x) (st : State) (k : Side × Nat)
    (s : Side) : Q ((putBack st k).side s) = Q (st.side s) := by
  rw [putBack_side]; split
  · exact hQ _ _
  · rfl

theorem recvMove_putBack (st : State) (p : Side) (k : Side × Nat) (g : SideSt → SideSt) (rest : List Frame)
    (h : p = k.1 → g (pb (st.side p) k.2) = pb (g (st.side p)) k.2) :
    recvMove (putBack st k) p (g ((putBack st k).side p)) rest = putBack (recvMove st p (g (st.side p)) rest) k := by
  obtain ⟨s, id⟩ := k
  rw [putBack_side]
  split
  · next e => cases e; rw [h rfl]; cases s <;> rfl
  · next e =>
    obtain rfl : s = p.peer := Side.eq_peer_of_ne (fun e' => e e'.symm)
    cases p <;> rfl

theorem recvMove_chans (st : State) (p : Side) (x' : SideSt) (rest : List Frame) (s : Side) :
    ((recvMove st p x' rest).side s).chans = if s = p then x'.chans else (st.side s).chans := by
  cases p <;> cases s <;> rfl

theorem step_putBack (fails : Item → Bool) (st : State) (k : Side × Nat) (op : Op) (h : Comm st k op) :
    step fails (putBack st k) op = ((step fails st op).1, putBack (step fails st op).2 k) := by
  have hfin := fun p => putBack_blind (·.finished) (fun _ _ => rfl) st k p
  have hout := fun p => putBack_blind (·.out) (fun _ _ => rfl) st k p
  cases op with
  | deliver p =>
    cases hf : (st.side p).finished with
    | true => rw [step_deliver_idle _ _ _ (.inl ((hfin p).trans hf)), step_deliver_idle _ _ _ (.inl hf)]
    | false =>
      cases ho : (st.side p.peer).out with
      | nil => rw [step_deliver_idle _ _ _ (.inr ((hout _).trans ho)), step_deliver_idle _ _ _ (.inr ho)]
      | cons f rest =>
        rw [step_deliver _ _ _ f rest ((hfin p).trans hf) ((hout _).trans ho), step_deliver _ _ _ f rest hf ho,
          recvMove_putBack st p k (handle fails · (p == .B) f) rest
            (fun e => handle_pb fails _ _ _ f (h e).1 ((h e).2 f rest ho))]
  | cut p =>
    cases hf : (st.side p).finished with
    | true => rw [step_cut_idle _ _ _ ((hfin p).trans hf), step_cut_idle _ _ _ hf]
    | false =>
      rw [step_cut _ _ _ ((hfin p).trans hf), step_cut _ _ _ hf, hout,
        recvMove_putBack st p k (epilogue · true) _ (fun _ => epilogue_pb ..)]
  | _ => exact step_putBack_oneSided fails st k.1 k.2 _ rfl h

theorem step_handOK (fails : Item → Bool) (st : State) (k : Side × Nat) (op : Op) (hc : Comm st k op)
    (hd : op ≠ .drop k.1 k.2) (h : HandOK ((st.side k.1).chans k.2)) :
    HandOK (((step fails st op).2.side k.1).chans k.2) := by
  cases op with
  | deliver p =>
    cases hf : (st.side p).finished with
    | true => rw [step_deliver_idle _ _ _ (.inl hf)]; exact h
    | false =>
      cases ho : (st.side p.peer).out with
      | nil => rw [step_deliver_idle _ _ _ (.inr ho)]; exact h
      | cons f rest =>
        rw [step_deliver _ _ _ f rest hf ho, recvMove_chans]
        split
        · next e => subst e; exact handle_handOK fails _ _ _ f ((hc rfl).2 f rest ho) h
        · exact h
  | cut p =>
    cases hf : (st.side p).finished with
    | true => rw [step_cut_idle _ _ _ hf]; exact h
    | false =>
      rw [step_cut _ _ _ hf, recvMove_chans]
      split
      · next e => subst e; exact epilogue_handOK _ _ true h
      · exact h
  | _ => exact step_handOK_oneSided fails st k.1 k.2 _ rfl hc hd h

end ExecnetVerif.Net.Fine
