/-
The one-sided operations as functions of their side (`sideStep`: `step` normalised with `modChan`, `setcbSide`,
`dropFrame`; filler `notEnabled` for `deliver` and `cut`).  Proofs/Net/Step.lean has the same fact as a relation
(`UserStep`, `step_cases`), which serves invariants.  The function is needed here: commutation with the put-back is an
equation between two runs of the SAME operation, and what the operation must respect (`SideComm`) is stated per
operation; `step_cases` forgets which operation made the step.
-/
import ExecnetVerif.Proofs.Net.FineWrite
import ExecnetVerif.Proofs.Net.Step
namespace ExecnetVerif.Net.Fine
open ExecnetVerif.Net

def opSide : Op → Side
  | .newchannel s => s
  | .remoteExec => .A
  | .send s _ _ => s
  | .close s _ _ => s
  | .receive s _ => s
  | .waitclose s _ => s
  | .setcallback s _ _ => s
  | .drop s _ => s
  | .isclosed s _ => s
  | .deliver p => p
  | .execFinish _ _ => .B
  | .cut p => p

def oneSided : Op → Bool
  | .deliver _ => false
  | .cut _ => false
  | _ => true

def sideStep (fails : Item → Bool) (x : SideSt) : Op → Out × SideSt
  | .newchannel _ =>
    if x.finished then (.osError, x)
    else (.chan x.count, { createAt x x.count with count := x.count + 2 })
  | .remoteExec =>
    if x.finished then (.osError, x)
    else if !x.ioOpen then (.osError, { x with count := x.count + 2 })
    else (.chan x.count, { createAt x x.count with count := x.count + 2, out := x.out ++ [.exec x.count] })
  | .send _ id v =>
    let c := x.chans id
    if !c.alive || !(v.chans.all fun k => (x.chans k).alive) then (.notEnabled, x)
    else if c.closed then (.osError, x)
    else if !x.ioOpen then (.osError, x)
    else (.ok, { x with out := x.out ++ [.data id v], sent := upd x.sent id (x.sent id ++ [v]) })
  | .close _ id err =>
    if !(x.chans id).alive then (.notEnabled, x) else chanClose x id err
  | .receive _ id =>
    let c := x.chans id
    if !c.alive then (.notEnabled, x)
    else match c.queue with
      | none => (.osError, x)
      | some [] => (.wouldBlock, x)
      | some (.item v :: q) =>
        (.item v, { modChan x id (fun c => { c with queue := some q }) with got := upd x.got id (x.got id ++ [v]) })
      | some (.endmarker :: q) =>
        match c.rerrs with
        | e :: es => (.remoteError e, modChan x id fun c => { c with queue := some (q ++ [.endmarker]), rerrs := es })
        | [] => (.eofError, modChan x id fun c => { c with queue := some (q ++ [.endmarker]) })
  | .waitclose _ id =>
    let c := x.chans id
    if !c.alive then (.notEnabled, x)
    else if !c.rclosed then (.wouldBlock, x)
    else match c.rerrs with
      | e :: es => (.remoteError e, modChan x id fun c => { c with rerrs := es })
      | [] => if x.gwerr then (.eofError, x) else (.ok, x)
  | .setcallback _ id w =>
    let c := x.chans id
    if !c.alive then (.notEnabled, x)
    else match c.queue with
      | none => (.osError, x)
      | some q =>
        if (drain fails q).2.1 then (.cbRaised, { setcbSide fails x id w q with broken := upd x.broken id true })
        else if (drain fails q).2.2 then (.ok, setcbSide fails x id w q)
        else if c.closed || c.rclosed then (.ok, setcbSide fails x id w q)
        else (.ok, { setcbSide fails x id w q with cbs := upd x.cbs id (some w) })
  | .drop _ id =>
    let c := x.chans id
    if !c.alive || c.executing then (.notEnabled, x)
    else
      let x1 := modChan x id fun c => { c with alive := false, registered := false }
      if c.closed || !x.ioOpen then (.ok, x1)
      else
        (.ok, { x1 with out := x1.out ++ [dropFrame c id], closeSent := upd x1.closeSent id true })
  | .isclosed _ id =>
    if !(x.chans id).alive then (.notEnabled, x) else (.bool (x.chans id).closed, x)
  | .execFinish id o =>
    let c := x.chans id
    if !c.executing then (.notEnabled, x)
    else
      let x := modChan x id fun c => { c with executing := false }
      let err := match o with
        | .ret => none
        | .raise e => if x.finished then none else some e
      chanClose x id err
  | .deliver _ => (.notEnabled, x)
  | .cut _ => (.notEnabled, x)

def liftRes (st : State) (s : Side) (r : Out × SideSt) : Out × State := (r.1, st.set s r.2)

theorem liftRes_mk (st : State) (s : Side) (o : Out) (x : SideSt) : liftRes st s (o, x) = (o, st.set s x) := rfl

theorem liftRes_ite (st : State) (s : Side) (c : Prop) [Decidable c] (a b : Out × SideSt) :
    liftRes st s (if c then a else b) = if c then liftRes st s a else liftRes st s b := apply_ite ..

/-- Proof: push `liftRes` through the conditionals of `sideStep`; the branches that leave the side alone then read
`st.set s (st.side s)`. -/
theorem step_eq_sideStep (fails : Item → Bool) (st : State) (op : Op) (h : oneSided op = true) :
    step fails st op = liftRes st (opSide op) (sideStep fails (st.side (opSide op)) op) := by
  cases op with
  | deliver p | cut p => cases h
  | newchannel s | send s id v | isclosed s id =>
    dsimp only [opSide]
    simp only [step, sideStep, liftRes_ite, liftRes_mk, State.set_side_self]
  | remoteExec | close s id err | drop s id | execFinish id o =>
    dsimp only [opSide]
    simp only [step, sideStep, liftRes_ite, liftRes_mk, State.set_side_self]; rfl
  | receive s id =>
    dsimp only [opSide]
    simp only [step, sideStep, modChan, liftRes_ite, liftRes_mk, State.set_side_self]
    refine ite_congr rfl (fun _ => rfl) (fun _ => ?_)
    rcases ((st.side s).chans id).queue with _ | _ | ⟨_ | _, q⟩
    · exact congrArg (Prod.mk _) (State.set_side_self st s).symm
    · exact congrArg (Prod.mk _) (State.set_side_self st s).symm
    · rfl
    · cases ((st.side s).chans id).rerrs <;> rfl
  | waitclose s id =>
    dsimp only [opSide]
    simp only [step, sideStep, liftRes_ite, liftRes_mk, State.set_side_self]
    refine ite_congr rfl (fun _ => rfl) (fun _ => ite_congr rfl (fun _ => rfl) (fun _ => ?_))
    cases ((st.side s).chans id).rerrs with
    | nil => simp only [liftRes_ite, liftRes_mk, State.set_side_self]
    | cons e es => rfl
  | setcallback s id w =>
    dsimp only [opSide]
    simp only [step, sideStep, liftRes_ite, liftRes_mk, State.set_side_self]
    refine ite_congr rfl (fun _ => rfl) (fun _ => ?_)
    cases ((st.side s).chans id).queue with
    | none => exact congrArg (Prod.mk _) (State.set_side_self st s).symm
    | some q => simp only [liftRes_ite, liftRes_mk]; rfl

theorem pb_upd_ne (x : SideSt) {id k : Nat} (c : Chan) (h : k ≠ id) :
    ({ pb x id with chans := upd (pb x id).chans k c } : SideSt) = pb { x with chans := upd x.chans k c } id :=
  pb_modChan x (fun _ => c) (fun e => absurd e h)

theorem setcbSide_pb (fails : Item → Bool) (x : SideSt) {id k : Nat} (w : Bool) (q : List QItem) (hk : k ≠ id) :
    setcbSide fails (pb x id) k w q = pb (setcbSide fails x k w q) id :=
  pb_comm_of_write (setcbSide fails · k w q) x id k (fun c => { c with queue := none }) (fun _ => rfl)
    (fun e => absurd e hk) rfl

/-- what a one-sided operation has to respect for the put-back at `id` to commute with it -/
def SideComm (x : SideSt) (id : Nat) : Op → Prop
  -- `createAt x x.count` would overwrite the in-hand record
  | .newchannel _ => id ≠ x.count
  | .remoteExec => id ≠ x.count
  -- on an empty queue the put-back is visible: the receive finds the ENDMARKER instead of blocking
  | .receive _ k => k = id → (x.chans id).queue ≠ some []
  -- `setcallback` detaches the queue, so the put-back would be lost (D22)
  | .setcallback _ k _ => k ≠ id
  | _ => True

theorem sideStep_pb_receive (fails : Item → Bool) (x : SideSt) (id : Nat) (s : Side) (k : Nat)
    (h : k = id → (x.chans id).queue ≠ some []) :
    sideStep fails (pb x id) (.receive s k) = pbRes id (sideStep fails x (.receive s k)) := by
  by_cases hk : k = id
  · subst hk
    simp only [sideStep, pb_chans_same, pbChan_alive, pbChan_queue, pbChan_rerrs, pb_got, pbRes_ite, pbRes_mk]
    -- the head of the queue is the same with and without the ENDMARKER appended, since the queue is not empty
    match hq : (x.chans k).queue, h rfl with
    | none, _ => rfl
    | some [], h => exact absurd rfl h
    | some (.item v :: q), _ =>
      exact congrArg (ite _ _) (congrArg (fun y : SideSt => (Out.item v, { y with got := upd x.got k (x.got k ++ [v]) }))
        (pb_modChan_same x k (fun c => { c with queue := some q }) _ (fun _ => rfl)))
    | some (.endmarker :: q), _ =>
      refine congrArg (ite _ _) ?_
      cases (x.chans k).rerrs with
      | nil =>
        exact congrArg (Prod.mk _)
          (pb_modChan_same x k (fun c => { c with queue := some (q ++ [.endmarker]) }) _ (fun _ => rfl))
      | cons e es =>
        exact congrArg (Prod.mk _)
          (pb_modChan_same x k (fun c => { c with queue := some (q ++ [.endmarker]), rerrs := es }) _ (fun _ => rfl))
  · simp only [sideStep, pb_chans_ne x hk, pb_got, pbRes_ite, pbRes_mk]
    refine congrArg (ite _ _) ?_
    rcases (x.chans k).queue with _ | _ | ⟨v | _, q⟩
    · rfl
    · rfl
    · exact congrArg (fun y : SideSt => (Out.item v, { y with got := upd x.got k (x.got k ++ [v]) }))
        (pb_modChan x _ (fun e => absurd e hk))
    · cases (x.chans k).rerrs <;> exact congrArg (Prod.mk _) (pb_modChan x _ (fun e => absurd e hk))

theorem sideStep_pb (fails : Item → Bool) (x : SideSt) (id : Nat) (op : Op) (h : SideComm x id op) :
    sideStep fails (pb x id) op = pbRes id (sideStep fails x op) := by
  cases op with
  | newchannel s =>
    simp only [sideStep, pb_finished, pb_count, pbRes_ite, pbRes_mk, createAt_pb x (Ne.symm h)]; rfl
  | remoteExec =>
    simp only [sideStep, pb_finished, pb_count, pb_ioOpen, pb_out, pbRes_ite, pbRes_mk,
      createAt_pb x (Ne.symm h)]; rfl
  | send s k v =>
    simp only [sideStep, pb_chans_alive, pb_chans_closed, pb_ioOpen, pbRes_ite, pbRes_mk]; rfl
  | close s k err =>
    simp only [sideStep, pb_chans_alive, pbRes_ite, pbRes_mk, chanClose_pb]
  | receive s k => exact sideStep_pb_receive fails x id s k h
  | waitclose s k =>
    simp only [sideStep, pb_chans_alive, pb_chans_rclosed, pb_chans_rerrs, pb_gwerr, pbRes_ite, pbRes_mk]
    refine ite_congr rfl (fun _ => rfl) (fun _ => ite_congr rfl (fun _ => rfl) (fun _ => ?_))
    cases (x.chans k).rerrs with
    | nil => rw [pbRes_ite]; rfl
    | cons e es => exact congrArg (Prod.mk _) (pb_modChan x _ (fun _ _ => rfl))
  | setcallback s k w =>
    have hk : k ≠ id := h
    simp only [sideStep, pb_chans_ne x hk, pbRes_ite, pbRes_mk, fun q => setcbSide_pb fails x w q hk]
    refine ite_congr rfl (fun _ => rfl) (fun _ => ?_)
    cases (x.chans k).queue with
    | none => rfl
    | some q => simp only [pbRes_ite, pbRes_mk]; rfl
  | drop s k =>
    simp only [sideStep, dropFrame, pb_chans_alive, pb_chans_executing, pb_chans_closed, pb_ioOpen, pb_chans_rclosed,
      pb_chans_queue_isNone, pbRes_ite, pbRes_mk,
      pb_modChan x (fun c => { c with alive := false, registered := false }) (fun _ _ => rfl)]; rfl
  | isclosed s k =>
    simp only [sideStep, pb_chans_alive, pb_chans_closed, pbRes_ite, pbRes_mk]
  | deliver p => rfl
  | execFinish k o =>
    simp only [sideStep, pb_chans_executing, pbRes_ite, pbRes_mk, chanClose_pb,
      pb_modChan x (fun c => { c with executing := false }) (fun _ _ => rfl)]; rfl
  | cut p => rfl

theorem HandOK.ite {id : Nat} {c : Prop} [Decidable c] {a b : Out × SideSt} (ha : HandOK (a.2.chans id))
    (hb : HandOK (b.2.chans id)) : HandOK ((if c then a else b).2.chans id) := by
  split
  · exact ha
  · exact hb

theorem sideStep_handOK (fails : Item → Bool) (x : SideSt) (id : Nat) (op : Op) (hc : SideComm x id op)
    (hd : ∀ s, op ≠ .drop s id) (h : HandOK (x.chans id)) : HandOK ((sideStep fails x op).2.chans id) := by
  cases op with
  | newchannel s => exact .ite h ((createAt_chans_ne x hc).symm ▸ h)
  | remoteExec => exact .ite h (.ite h ((createAt_chans_ne x hc).symm ▸ h))
  | send s k v => exact .ite h (.ite h (.ite h h))
  | close s k err => exact .ite h (chanClose_handOK x id k err h)
  | receive s k =>
    refine .ite h ?_
    match hq : (x.chans k).queue with
    | none | some [] => exact h
    | some (.item v :: q) => exact h.of_write rfl (fun e => by subst e; cases (h.queue_cons hq).1)
    | some (.endmarker :: q) =>
      -- an in-hand queue holds ENDMARKERs only, so moving its head to the tail changes nothing
      have hk : k = id → HandOK { x.chans k with queue := some (q ++ [.endmarker]) } :=
        fun e => by subst e; exact h.of_eq rfl rfl (.inl (h.queue_cons hq).2)
      cases (x.chans k).rerrs with
      | nil => exact h.of_write rfl hk
      | cons e es => exact h.of_write rfl (fun e => (hk e).of_eq rfl rfl (.inl rfl))
  | waitclose s k =>
    refine .ite h (.ite h ?_)
    cases (x.chans k).rerrs with
    | nil => exact .ite h h
    | cons e es => exact h.of_write rfl (fun e => e ▸ h.of_eq rfl rfl (.inl rfl))
  | setcallback s k w =>
    have hk : k ≠ id := hc
    refine .ite h ?_
    cases (x.chans k).queue with
    | none => exact h
    | some q =>
      exact .ite (h.of_write rfl (absurd · hk)) (.ite (h.of_write rfl (absurd · hk))
        (.ite (h.of_write rfl (absurd · hk)) (h.of_write rfl (absurd · hk))))
  | drop s k =>
    have hk : k ≠ id := fun e => hd s (e ▸ rfl)
    exact .ite h (.ite (h.of_write rfl (absurd · hk)) (h.of_write rfl (absurd · hk)))
  | isclosed s k => exact .ite h h
  | deliver p => exact h
  | execFinish k o =>
    exact .ite h (chanClose_handOK _ id k _ (h.of_write rfl (fun e => e ▸ h.of_eq rfl rfl (.inl rfl))))
  | cut p => exact h

end ExecnetVerif.Net.Fine
