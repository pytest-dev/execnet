/-
The put-back `pb · id` rewrites one channel record by `pbChan`, which touches only the tail of the queue.  A write of
the model to one record can be written `modChan k G`; two such writes commute if the records differ or the record
functions commute (`modChan_comm`); what does not look at the tail of a queue does not see a put-back (`pb_chans_obs`).
-/
import ExecnetVerif.Model.NetFine
import ExecnetVerif.Proofs.Net.Plumbing
namespace ExecnetVerif.Net.Fine
open ExecnetVerif.Net

theorem side_set_peer (st : State) (s : Side) (x : SideSt) :
    (st.set s x).side s.peer = st.side s.peer := State.side_set_peer st s x

theorem side_peer_set (st : State) (s : Side) (x : SideSt) :
    (st.set s.peer x).side s = st.side s := State.side_peer_set st s x

theorem set_set_comm (st : State) {s p : Side} (x y : SideSt) (h : s ≠ p) :
    (st.set s x).set p y = (st.set p y).set s x := by
  cases s <;> cases p <;> first | rfl | exact absurd rfl h

theorem peer_ne (s : Side) : s.peer ≠ s := Side.peer_ne s
theorem ne_peer (s : Side) : s ≠ s.peer := Side.ne_peer s
theorem eq_peer_of_ne {s p : Side} (h : p ≠ s) : p = s.peer := Side.eq_peer_of_ne h

theorem upd_apply {α : Type} (f : Nat → α) (k : Nat) (v : α) (i : Nat) :
    upd f k v i = if i = k then v else f i := rfl

theorem upd_comm {α : Type} (f : Nat → α) {j k : Nat} (v w : α) (h : j ≠ k) :
    upd (upd f j v) k w = upd (upd f k w) j v := by
  funext i; simp only [upd]; split <;> split <;> simp_all

/-- `hr` is `rfl` when the two differ in `chans` only -/
theorem SideSt.eq_of_chans {x y : SideSt} (hc : x.chans = y.chans) (hr : { x with chans := y.chans } = y) : x = y := by
  rw [← hr, ← hc]

def modChan (x : SideSt) (k : Nat) (G : Chan → Chan) : SideSt :=
  { x with chans := upd x.chans k (G (x.chans k)) }

theorem modChan_comm (x : SideSt) {i k : Nat} (F G : Chan → Chan) (h : k = i → ∀ c, G (F c) = F (G c)) :
    modChan (modChan x i F) k G = modChan (modChan x k G) i F := by
  refine SideSt.eq_of_chans ?_ rfl
  by_cases hk : k = i
  · subst hk; simp only [modChan, upd_same, upd_upd, h rfl]
  · simp only [modChan, upd_ne _ _ hk, upd_ne _ _ (Ne.symm hk)]
    exact upd_comm _ _ _ (Ne.symm hk)

theorem modChan_modChan (x : SideSt) (k : Nat) (F G : Chan → Chan) :
    modChan (modChan x k F) k G = modChan x k fun c => G (F c) :=
  SideSt.eq_of_chans (by simp only [modChan, upd_same, upd_upd]) rfl

theorem modChan_eq_self (x : SideSt) (k : Nat) (G : Chan → Chan) (h : G (x.chans k) = x.chans k) : modChan x k G = x :=
  SideSt.eq_of_chans (by simp only [modChan, h, upd_eq_self]) rfl

def pbChan (c : Chan) : Chan := { c with queue := pushEnd c.queue }

def pb (x : SideSt) (id : Nat) : SideSt := { x with chans := upd x.chans id (pbChan (x.chans id)) }

theorem pb_eq_modChan (x : SideSt) (id : Nat) : pb x id = modChan x id pbChan := rfl

theorem putBack_eq (st : State) (s : Side) (id : Nat) : putBack st (s, id) = st.set s (pb (st.side s) id) := rfl

@[simp] theorem pbChan_created (c : Chan) : (pbChan c).created = c.created := rfl
@[simp] theorem pbChan_registered (c : Chan) : (pbChan c).registered = c.registered := rfl
@[simp] theorem pbChan_alive (c : Chan) : (pbChan c).alive = c.alive := rfl
@[simp] theorem pbChan_closed (c : Chan) : (pbChan c).closed = c.closed := rfl
@[simp] theorem pbChan_rclosed (c : Chan) : (pbChan c).rclosed = c.rclosed := rfl
@[simp] theorem pbChan_rerrs (c : Chan) : (pbChan c).rerrs = c.rerrs := rfl
@[simp] theorem pbChan_executing (c : Chan) : (pbChan c).executing = c.executing := rfl
@[simp] theorem pbChan_queue (c : Chan) : (pbChan c).queue = pushEnd c.queue := rfl

@[simp] theorem pb_cbs (x : SideSt) (id : Nat) : (pb x id).cbs = x.cbs := rfl
@[simp] theorem pb_count (x : SideSt) (id : Nat) : (pb x id).count = x.count := rfl
@[simp] theorem pb_finished (x : SideSt) (id : Nat) : (pb x id).finished = x.finished := rfl
@[simp] theorem pb_gwerr (x : SideSt) (id : Nat) : (pb x id).gwerr = x.gwerr := rfl
@[simp] theorem pb_ioOpen (x : SideSt) (id : Nat) : (pb x id).ioOpen = x.ioOpen := rfl
@[simp] theorem pb_out (x : SideSt) (id : Nat) : (pb x id).out = x.out := rfl
@[simp] theorem pb_sent (x : SideSt) (id : Nat) : (pb x id).sent = x.sent := rfl
@[simp] theorem pb_got (x : SideSt) (id : Nat) : (pb x id).got = x.got := rfl
@[simp] theorem pb_kept (x : SideSt) (id : Nat) : (pb x id).kept = x.kept := rfl
@[simp] theorem pb_delivered (x : SideSt) (id : Nat) : (pb x id).delivered = x.delivered := rfl
@[simp] theorem pb_cbLog (x : SideSt) (id : Nat) : (pb x id).cbLog = x.cbLog := rfl
@[simp] theorem pb_dropped (x : SideSt) (id : Nat) : (pb x id).dropped = x.dropped := rfl
@[simp] theorem pb_broken (x : SideSt) (id : Nat) : (pb x id).broken = x.broken := rfl
@[simp] theorem pb_cbWants (x : SideSt) (id : Nat) : (pb x id).cbWants = x.cbWants := rfl
@[simp] theorem pb_ended (x : SideSt) (id : Nat) : (pb x id).ended = x.ended := rfl
@[simp] theorem pb_closeSeen (x : SideSt) (id : Nat) : (pb x id).closeSeen = x.closeSeen := rfl
@[simp] theorem pb_closeSent (x : SideSt) (id : Nat) : (pb x id).closeSent = x.closeSent := rfl
theorem pb_chans (x : SideSt) (id : Nat) : (pb x id).chans = upd x.chans id (pbChan (x.chans id)) := rfl
@[simp] theorem pb_chans_same (x : SideSt) (id : Nat) : (pb x id).chans id = pbChan (x.chans id) := upd_same ..
theorem pb_chans_ne (x : SideSt) {id i : Nat} (h : i ≠ id) : (pb x id).chans i = x.chans i := upd_ne _ _ h

theorem pb_modChan (x : SideSt) {id k : Nat} (G : Chan → Chan) (h : k = id → ∀ c, G (pbChan c) = pbChan (G c)) :
    modChan (pb x id) k G = pb (modChan x k G) id := modChan_comm x pbChan G h

theorem pb_modChan_same (x : SideSt) (k : Nat) (G G' : Chan → Chan) (h : ∀ c, G' (pbChan c) = pbChan (G c)) :
    modChan (pb x k) k G' = pb (modChan x k G) k :=
  (modChan_modChan x k pbChan G').trans
    ((congrArg (modChan x k) (funext h)).trans (modChan_modChan x k G pbChan).symm)

theorem pb_comm (x : SideSt) (i j : Nat) : pb (pb x i) j = pb (pb x j) i :=
  modChan_comm x pbChan pbChan (fun _ _ => rfl)

theorem putBack_comm (st : State) (k k' : Side × Nat) : putBack (putBack st k) k' = putBack (putBack st k') k := by
  obtain ⟨s, i⟩ := k
  obtain ⟨p, j⟩ := k'
  simp only [putBack_eq]
  by_cases h : s = p
  · subst h; simp only [State.side_set_same, State.set_set_same]; rw [pb_comm]
  · rw [State.side_set_of_ne _ _ (Ne.symm h), State.side_set_of_ne _ _ h, set_set_comm _ _ _ h]

theorem pb_chans_apply (x : SideSt) (id i : Nat) :
    (pb x id).chans i = if i = id then pbChan (x.chans i) else x.chans i := by
  rw [pb_chans, upd_apply]; split
  · next e => rw [e]
  · rfl

theorem pb_chans_obs {α : Type} (P : Chan → α) (hP : ∀ c, P (pbChan c) = P c) (x : SideSt) (id k : Nat) :
    P ((pb x id).chans k) = P (x.chans k) := by
  rw [pb_chans_apply]; split
  · exact hP _
  · rfl

@[simp] theorem pb_chans_alive (x : SideSt) (id k : Nat) : ((pb x id).chans k).alive = (x.chans k).alive :=
  pb_chans_obs (·.alive) (fun _ => rfl) x id k
@[simp] theorem pb_chans_created (x : SideSt) (id k : Nat) : ((pb x id).chans k).created = (x.chans k).created :=
  pb_chans_obs (·.created) (fun _ => rfl) x id k
@[simp] theorem pb_chans_registered (x : SideSt) (id k : Nat) :
    ((pb x id).chans k).registered = (x.chans k).registered := pb_chans_obs (·.registered) (fun _ => rfl) x id k
@[simp] theorem pb_chans_closed (x : SideSt) (id k : Nat) : ((pb x id).chans k).closed = (x.chans k).closed :=
  pb_chans_obs (·.closed) (fun _ => rfl) x id k
@[simp] theorem pb_chans_rclosed (x : SideSt) (id k : Nat) : ((pb x id).chans k).rclosed = (x.chans k).rclosed :=
  pb_chans_obs (·.rclosed) (fun _ => rfl) x id k
@[simp] theorem pb_chans_rerrs (x : SideSt) (id k : Nat) : ((pb x id).chans k).rerrs = (x.chans k).rerrs :=
  pb_chans_obs (·.rerrs) (fun _ => rfl) x id k
@[simp] theorem pb_chans_executing (x : SideSt) (id k : Nat) :
    ((pb x id).chans k).executing = (x.chans k).executing := pb_chans_obs (·.executing) (fun _ => rfl) x id k
@[simp] theorem pb_chans_queue_isNone (x : SideSt) (id k : Nat) :
    ((pb x id).chans k).queue.isNone = (x.chans k).queue.isNone :=
  pb_chans_obs (·.queue.isNone) (fun c => by cases h : c.queue <;> simp [pbChan, pushEnd, h]) x id k

@[simp] theorem pb_chans_queue_isSome (x : SideSt) (id k : Nat) :
    ((pb x id).chans k).queue.isSome = (x.chans k).queue.isSome :=
  pb_chans_obs (·.queue.isSome) (fun c => by cases h : c.queue <;> simp [pbChan, pushEnd, h]) x id k

def pbRes (id : Nat) (r : Out × SideSt) : Out × SideSt := (r.1, pb r.2 id)

theorem pbRes_mk (id : Nat) (o : Out) (y : SideSt) : pbRes id (o, y) = (o, pb y id) := rfl

theorem pbRes_ite (id : Nat) (c : Prop) [Decidable c] (a b : Out × SideSt) :
    pbRes id (if c then a else b) = if c then pbRes id a else pbRes id b := apply_ite ..

end ExecnetVerif.Net.Fine
