/-
The invariant groups G1–G8 of the L3 `Net` model, each a predicate on one side of the connection (or
on a side and its peer), and induction over reachable states.  Where a group is inductive only with
auxiliary clauses these are `XAux`, and the two are proved together (`CbAll`, `CloseAll`, `GotAll`).
-/
import ExecnetVerif.Model.Net
namespace ExecnetVerif.Net

def qItems : List QItem → List Item
  | [] => []
  | .item v :: r => v :: qItems r
  | .endmarker :: r => qItems r

def queueItems (q : Option (List QItem)) : List Item := (q.map qItems).getD []

def cbItems : List CbEvent → List Item
  | [] => []
  | .item v :: r => v :: cbItems r
  | .endmarker :: r => cbItems r

def Frame.isClosing (id : Nat) : Frame → Bool
  | .close i => i == id
  | .closeErr i _ => i == id
  | .lastMsg i => i == id
  | _ => false

theorem run_append (fails : Item → Bool) (st : State) (ops1 ops2 : List Op) :
    (run fails st (ops1 ++ ops2)).2 = (run fails (run fails st ops1).2 ops2).2 := by
  induction ops1 generalizing st with
  | nil => rfl
  | cons op t ih => simp only [List.cons_append, run]; exact ih _

theorem Reachable.init (fails : Item → Bool) : Reachable fails init := ⟨[], rfl⟩

theorem Reachable.step {fails : Item → Bool} {st : State} (h : Reachable fails st) (op : Op) :
    Reachable fails (step fails st op).2 := by
  obtain ⟨ops, rfl⟩ := h
  exact ⟨ops ++ [op], by rw [run_append]; simp [run]⟩

theorem Reachable.induction {fails : Item → Bool} {P : State → Prop} (h0 : P Net.init)
    (hstep : ∀ st op, Reachable fails st → P st → P (Net.step fails st op).2) :
    ∀ st, Reachable fails st → P st := by
  rintro st ⟨ops, rfl⟩
  suffices ∀ ops st0, Reachable fails st0 → P st0 → P (run fails st0 ops).2 from this ops _ (.init fails) h0
  intro ops
  induction ops with
  | nil => exact fun _ _ h => h
  | cons op t ih => exact fun st0 hr h => ih _ (hr.step op) (hstep st0 op hr h)

/-! ### G1: wire conservation -/

/-- everything side `s` wrote on `id` has either been handled by the peer's receiver or is still in
flight, in order -/
def WireInv (st : State) : Prop :=
  ∀ (s : Side) (id : Nat), (st.side s).sent id = (st.side s.peer).delivered id ++ dataOf id (st.side s).out

/-! ### G2: delivery bookkeeping -/

def KeptInv (st : State) : Prop :=
  ∀ (p : Side) (id : Nat),
    List.Sublist ((st.side p).kept id) ((st.side p).delivered id) ∧
    ((st.side p).dropped id = false → (st.side p).kept id = (st.side p).delivered id)

/-! ### G3: shape of one channel record -/

def Chan.QueueShape (c : Chan) : Prop :=
  ∀ q, c.queue = some q → ∃ (items : List Item) (k : Nat),
    q = items.map QItem.item ++ List.replicate k QItem.endmarker ∧ (k = 0 ↔ c.rclosed = false)

def ShapeInv (st : State) : Prop :=
  ∀ (p : Side) (id : Nat),
    let c := (st.side p).chans id
    c.QueueShape ∧
    (c.closed = true → c.rclosed = true) ∧
    (c.registered = true → c.created = true ∧ c.alive = true ∧ c.closed = false ∧ c.rclosed = false) ∧
    (c.alive = true → c.created = true) ∧
    (c.created = true → c.alive = true → c.registered = false → c.rclosed = true) ∧
    (c.executing = true → c.alive = true) ∧
    (c.created = false → c.queue = some [] ∧ c.closed = false ∧ c.rclosed = false ∧ c.rerrs = [] ∧ c.executing = false)

/-! ### G4: what the user got -/

def GotInv (st : State) : Prop :=
  ∀ (p : Side) (id : Nat),
    let x := st.side p
    List.Sublist (x.got id ++ queueItems (x.chans id).queue) (x.kept id) ∧
    (x.broken id = false → x.got id ++ queueItems (x.chans id).queue = x.kept id)

/-! ### G5: callbacks -/

def CbInv (st : State) : Prop :=
  ∀ (p : Side) (id : Nat),
    let x := st.side p
    let c := x.chans id
    -- a registered callback means callback mode, not ended
    (∀ w, x.cbs id = some w → x.broken id = false → c.queue = none ∧ x.cbWants id = some w ∧ x.ended id = false) ∧
    -- the endmarker is the last callback event and unregisters the callback
    -- (these, "on request" and "suffix" are guarded by `broken`: a re-opened id gets a second
    -- conversation appended to the same ghost log)
    (x.broken id = false → ∀ pre post, x.cbLog id = pre ++ CbEvent.endmarker :: post → post = []) ∧
    (x.broken id = false → CbEvent.endmarker ∈ x.cbLog id → x.cbs id = none) ∧
    -- before setcallback there are no callback events
    (x.cbWants id = none → x.cbLog id = [] ∧ x.cbs id = none) ∧
    -- callback mode that has not ended keeps its callback registered
    (∀ w, x.cbWants id = some w → x.ended id = false → x.broken id = false → x.cbs id = some w) ∧
    -- a requested endmarker has been delivered once the conversation ended at this side
    (x.cbWants id = some true → x.ended id = true → x.broken id = false → CbEvent.endmarker ∈ x.cbLog id) ∧
    -- an endmarker is only ever delivered on request
    (x.broken id = false → CbEvent.endmarker ∈ x.cbLog id → x.cbWants id = some true) ∧
    -- the callback saw exactly the items handed over since setcallback
    (x.broken id = false → ∃ pre, x.got id = pre ++ cbItems (x.cbLog id)) ∧
    -- ended ⇒ forgotten (unless the id was re-opened, which marks it broken)
    (x.ended id = true → x.broken id = false → c.registered = false)

/-! ### G6: after the receiver finished -/

def FinInv (st : State) : Prop :=
  ∀ (p : Side),
    let x := st.side p
    x.finished = true →
      x.ioOpen = false ∧ ∀ id, (x.chans id).registered = false ∧ x.cbs id = none ∧
        ((x.chans id).alive = true → (x.chans id).rclosed = true)

/-! ### G7: closing frames are ordered after the data -/

def noClosing (id : Nat) (out : List Frame) : Prop := ∀ f ∈ out, Frame.isClosing id f = false

/-- no DATA frame for `id` follows a closing frame for `id` -/
def wellOrdered (id : Nat) (out : List Frame) : Prop :=
  ∀ pre f post, out = pre ++ f :: post → Frame.isClosing id f = true → dataOf id post = []

def CloseInv (st : State) : Prop :=
  ∀ (s : Side) (id : Nat),
    let x := st.side s
    let c := x.chans id
    (x.closeSent id = false → noClosing id x.out) ∧
    (x.closeSent id = true → x.broken id = false → c.closed = true ∨ c.alive = false) ∧
    (x.broken id = false → wellOrdered id x.out) ∧
    ((st.side s.peer).closeSeen id = true → x.closeSent id = true) ∧
    ((st.side s.peer).closeSeen id = true → x.broken id = false → dataOf id x.out = [])

/-! ### G8: channel ids -/

def IdInv (st : State) : Prop :=
  st.a.count % 2 = 1 ∧ st.b.count % 2 = 0 ∧
  (∀ id, (st.a.chans id).created = true → id % 2 = 1 → id < st.a.count) ∧
  (∀ id, (st.b.chans id).created = true → id % 2 = 0 → id < st.b.count)

def chanOut : Out → Option Nat
  | .chan id => some id
  | _ => none

end ExecnetVerif.Net
