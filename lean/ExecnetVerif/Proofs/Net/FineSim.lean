/-
Step simulation and the refinement: a guarded fine run from any state satisfying `FInv` with a reachable
abstraction is the coarse run of its projection.
-/
import ExecnetVerif.Proofs.Net.FineAbs
import ExecnetVerif.Proofs.Net.Shape
import ExecnetVerif.Proofs.Net.Ids
namespace ExecnetVerif.Net.Fine
open ExecnetVerif.Net

def FInv (f : FState) : Prop := ∀ k ∈ f.hand, HandOK ((f.st.side k.1).chans k.2)

theorem FInv_finit : FInv finit := fun _ h => by cases h

theorem ne_count_of_alive (fails : Item → Bool) (f : FState) (hr : Reachable fails f.abs) (s : Side) (id : Nat)
    (ha : ((f.st.side s).chans id).alive = true) : id ≠ (f.st.side s).count := by
  -- alive ⇒ created (`ShapeInv`); `count` has the parity of its side and exceeds every created id of that parity (`IdInv`)
  have hcr : ((f.abs.side s).chans id).created = true := by
    apply Chan.Shape.created_of_alive (ShapeInv_reachable hr s id)
    rw [FState.abs, foldl_putBack_blind (fun x => (x.chans id).alive) (fun x i => pb_chans_alive x i id)]; exact ha
  have hcnt : (f.abs.side s).count = (f.st.side s).count := foldl_putBack_blind (·.count) (fun _ _ => rfl) ..
  rw [← hcnt]
  obtain ⟨h1, h2, h3, h4⟩ := IdInv_reachable hr
  cases s with
  | A =>
    have := h3 id hcr
    show id ≠ f.abs.a.count
    omega
  | B =>
    have := h4 id hcr
    show id ≠ f.abs.b.count
    omega

/-- in the abstraction the queue is items ++ ENDMARKERs (`ShapeInv`), so what follows an ENDMARKER are ENDMARKERs -/
theorem handOK_of_head_end (fails : Item → Bool) (f : FState) (hr : Reachable fails f.abs) (s : Side) (id : Nat)
    (q : List QItem) (ha : ((f.st.side s).chans id).alive = true)
    (hq : ((f.st.side s).chans id).queue = some (QItem.endmarker :: q)) :
    HandOK { (f.st.side s).chans id with queue := some q } := by
  have hshape := ShapeInv_reachable hr s id
  obtain ⟨n, hn⟩ := foldl_putBack_queue f.hand f.st s id
  rw [hq] at hn
  obtain ⟨hrc, k, hk⟩ := QShape.head_end (Chan.Shape.queue hshape _ hn)
  refine ⟨ha, ?_, q.length, congrArg some (List.append_eq_replicate_iff.mp hk).2.1⟩
  -- a registered record is not `rclosed` (`ShapeInv`)
  cases hreg : ((f.abs.side s).chans id).registered with
  | true => rw [(Chan.Shape.of_registered hshape hreg).2.2.2] at hrc; cases hrc
  | false =>
    rwa [FState.abs, foldl_putBack_blind (fun x => (x.chans id).registered) (fun x i => pb_chans_registered x i id)]
      at hreg

theorem fstep_coarse (fails : Item → Bool) (f : FState) (op : Op) :
    fstep fails f (.coarse op) = ((step fails f.st op).1, { f with st := (step fails f.st op).2 }) := rfl

/-- `hns` matters for `receive` only: the silent case (empty queue, ENDMARKER in a hand) does not commute -/
theorem comm_of_guard (fails : Item → Bool) (f : FState) (op : Op) (hinv : FInv f) (hr : Reachable fails f.abs)
    (hg : (FOp.coarse op).respectsHands f = true) (hns : (FOp.coarse op).coarseOf f = some op) :
    ∀ k ∈ f.hand, Comm f.st k op ∧ op ≠ .drop k.1 k.2 := by
  intro k hk
  have hok := hinv k hk
  have hc : ∀ {s id}, s = k.1 → id = k.2 → f.hand.contains (s, id) = true := by
    rintro _ _ rfl rfl; exact List.contains_iff_mem.mpr hk
  cases op with
  | deliver p =>
    refine ⟨fun hp => ⟨hp ▸ hok.2.1, fun fr rest hout => ?_⟩, nofun⟩
    simp only [FOp.respectsHands, hout] at hg
    cases fr with
    | data i v =>
      intro hmem
      simpa only [hc hp rfl, Bool.not_true, Bool.false_eq_true] using List.all_eq_true.mp hg k.2 hmem
    | exec i =>
      intro hi
      simp only [hc hp hi, Bool.not_true, Bool.false_eq_true] at hg
    | _ => trivial
  | cut p => exact ⟨trivial, nofun⟩
  | newchannel s | remoteExec => exact ⟨fun _ => ne_count_of_alive fails f hr k.1 k.2 hok.1, nofun⟩
  | setcallback s id w =>
    refine ⟨fun hs hid => ?_, nofun⟩
    simp only [FOp.respectsHands, hc (s := s) hs hid, Bool.not_true, Bool.false_eq_true] at hg
  | drop s id =>
    refine ⟨fun _ => trivial, fun e => ?_⟩
    injection e with hs hid
    simp only [FOp.respectsHands, hc hs hid, Bool.not_true, Bool.false_eq_true] at hg
  | receive s id =>
    refine ⟨fun hs hid hq => ?_, nofun⟩
    obtain rfl : s = k.1 := hs
    subst hid
    simp only [FOp.coarseOf, hq, hok.1, hc rfl rfl, Bool.and_self, if_true] at hns
    cases hns
  | _ => exact ⟨fun _ => trivial, nofun⟩

theorem coarseOf_coarse_or_silent (f : FState) (op : Op) :
    (FOp.coarse op).coarseOf f = some op ∨
    ((FOp.coarse op).coarseOf f = none ∧ ∃ s id, op = .receive s id ∧
      ((f.st.side s).chans id).queue = some [] ∧ ((f.st.side s).chans id).alive = true) := by
  cases op with
  | receive s id =>
    simp only [FOp.coarseOf]
    split
    · next hq =>
      split
      · next h =>
        right
        simp only [Bool.and_eq_true] at h
        exact ⟨rfl, s, id, rfl, hq, h.1⟩
      · left; rfl
    · left; rfl
  | _ => left; rfl

theorem fstep_receive_silent (fails : Item → Bool) (f : FState) (s : Side) (id : Nat)
    (hq : ((f.st.side s).chans id).queue = some []) (ha : ((f.st.side s).chans id).alive = true) :
    fstep fails f (.coarse (.receive s id)) = (.wouldBlock, f) := by
  rw [fstep_coarse]
  have : step fails f.st (.receive s id) = (.wouldBlock, f.st) := by
    simp only [step, ha, hq, Bool.not_true, Bool.false_eq_true, if_false]
  rw [this]

/-- the step keeps `FInv` and is matched on the abstraction by `coarseOf`, or by nothing if silent.  To use it:
destructure, then `rw [hco] at` the second component with `hco : op.coarseOf f = _`. -/
def SimOK (fails : Item → Bool) (f : FState) (op : FOp) : Prop :=
  FInv (fstep fails f op).2 ∧
  match op.coarseOf f with
  | none => (fstep fails f op).2.abs = f.abs
  | some cop => step fails f.abs cop = ((fstep fails f op).1, (fstep fails f op).2.abs)

theorem simOK_coarse (fails : Item → Bool) (f : FState) (op : Op) (hinv : FInv f) (hr : Reachable fails f.abs)
    (hg : (FOp.coarse op).respectsHands f = true) : SimOK fails f (.coarse op) := by
  cases coarseOf_coarse_or_silent f op with
  | inl hns =>
    have hc := comm_of_guard fails f op hinv hr hg hns
    refine ⟨fun k hk => step_handOK fails f.st k op (hc k hk).1 (hc k hk).2 (hinv k hk), ?_⟩
    rw [hns]
    show step fails (f.hand.foldl putBack f.st) op = _
    rw [step_foldl_putBack fails f.hand f.st op (fun k hk => (hc k hk).1)]
    rfl
  | inr h =>
    obtain ⟨h, s, id, rfl, hq, ha⟩ := h
    unfold SimOK
    rw [h, fstep_receive_silent fails f s id hq ha]
    exact ⟨hinv, rfl⟩

theorem recvGet_eq_receive (fails : Item → Bool) (f : FState) (s : Side) (id : Nat)
    (h : ¬ (((f.st.side s).chans id).alive = true ∧ ∃ q, ((f.st.side s).chans id).queue = some (QItem.endmarker :: q))) :
    fstep fails f (.recvGet s id) = fstep fails f (.coarse (.receive s id)) ∧
    (FOp.recvGet s id).coarseOf f = (FOp.coarse (.receive s id)).coarseOf f := by
  rw [fstep_coarse]
  match hq : ((f.st.side s).chans id).queue with
  | some (.endmarker :: q) =>
    cases ha : ((f.st.side s).chans id).alive with
    | true => exact absurd ⟨ha, q, hq⟩ h
    | false =>
      constructor
      · simp only [fstep, step, ha, hq, Bool.not_false, if_true]
      · simp only [FOp.coarseOf, hq, ha, Bool.false_eq_true, if_false]
  | none | some [] | some (.item v :: q) =>
    constructor
    · cases ha : ((f.st.side s).chans id).alive <;>
        simp only [fstep, step, ha, hq, Bool.not_true, Bool.not_false, Bool.false_eq_true, if_false, if_true]
    · simp only [FOp.coarseOf, hq]

theorem chan_eta_queue (c : Chan) (q : Option (List QItem)) (h : c.queue = q) : { c with queue := q } = c :=
  h ▸ rfl

theorem simOK_recvGet_take (fails : Item → Bool) (f : FState) (s : Side) (id : Nat) (q : List QItem)
    (hinv : FInv f) (hr : Reachable fails f.abs)
    (ha : ((f.st.side s).chans id).alive = true)
    (hq : ((f.st.side s).chans id).queue = some (QItem.endmarker :: q)) : SimOK fails f (.recvGet s id) := by
  have hok := handOK_of_head_end fails f hr s id q ha hq
  -- the queue holds ENDMARKERs only, so putting the head back at the tail restores it
  have hrot : some (q ++ [QItem.endmarker]) = ((f.st.side s).chans id).queue := by
    obtain ⟨_, _, m, hm⟩ := hok
    rw [hq, Option.some.inj hm, ← List.replicate_succ']; rfl
  have hstep : fstep fails f (.recvGet s id) =
      (.ok, ⟨f.st.set s (modChan (f.st.side s) id (fun c => { c with queue := some q })), (s, id) :: f.hand⟩) := by
    have ha' : (!((f.st.side s).chans id).alive) = false := by rw [ha]; rfl
    simp only [fstep, ha', hq, Bool.false_eq_true, if_false]; rfl
  have hco : (FOp.recvGet s id).coarseOf f = none := by
    simp only [FOp.coarseOf, hq, ha, if_true]
  unfold SimOK
  rw [hstep, hco]
  constructor
  · exact fun k hk => .of_set rfl (fun hne => hinv k ((List.mem_cons.mp hk).resolve_left hne)) (fun _ => hok)
  · show List.foldl putBack (putBack (f.st.set s _) (s, id)) f.hand = f.abs
    rw [putBack_eq, State.side_set_same, State.set_set_same, pb_eq_modChan, modChan_modChan,
      modChan_eq_self _ _ _ (chan_eta_queue _ _ hrot.symm), State.set_side_self]
    rfl

theorem simOK_recvFin_none (fails : Item → Bool) (f : FState) (s : Side) (id : Nat) (hinv : FInv f)
    (hc : f.hand.contains (s, id) = false) : SimOK fails f (.recvFin s id) := by
  have hstep : fstep fails f (.recvFin s id) = (.notEnabled, f) := by
    simp only [fstep, hc, Bool.not_false, if_true]
  have hco : (FOp.recvFin s id).coarseOf f = none := by
    simp only [FOp.coarseOf, hc, Bool.false_eq_true, if_false]
  unfold SimOK
  rw [hstep, hco]
  exact ⟨hinv, rfl⟩

theorem fstep_recvFin (fails : Item → Bool) (f : FState) (s : Side) (id : Nat)
    (hc : f.hand.contains (s, id) = true) (hok : HandOK ((f.st.side s).chans id)) :
    fstep fails f (.recvFin s id) =
      ((step fails (putBack f.st (s, id)) (.receive s id)).1,
        { st := (step fails (putBack f.st (s, id)) (.receive s id)).2, hand := eraseOne (s, id) f.hand }) := by
  obtain ⟨ha, _, m, hq⟩ := hok
  have hq' : pushEnd ((f.st.side s).chans id).queue = some (QItem.endmarker :: List.replicate m QItem.endmarker) := by
    rw [hq, pushEnd_replicate, List.replicate_succ]
  -- both sides unfold to the same output and `f.st.set s _`; the sides differ only in the queue written to `chans id`
  cases hrr : ((f.st.side s).chans id).rerrs <;>
    simp only [step, fstep, putBack_eq, State.side_set_same, State.set_set_same, pb_chans_same, pbChan_alive,
      pbChan_queue, pbChan_rerrs, ha, hq', hc, hrr, Bool.not_true, Bool.false_eq_true, if_false, Prod.mk.injEq,
      FState.mk.injEq, true_and, and_true] <;>
    refine congrArg (f.st.set s) (SideSt.eq_of_chans ?_ rfl) <;>
    -- m ENDMARKERs with one more pushed onto the tail are m ENDMARKERs with one more at the head
    simp only [pb_chans, upd_upd, pbChan, hq, pushEnd, Option.map, ← List.replicate_succ', List.replicate_succ]

theorem simOK_recvFin_some (fails : Item → Bool) (f : FState) (s : Side) (id : Nat) (hinv : FInv f)
    (hc : f.hand.contains (s, id) = true) : SimOK fails f (.recvFin s id) := by
  have hk : (s, id) ∈ f.hand := List.contains_iff_mem.mp hc
  have hok := hinv (s, id) hk
  have hco : (FOp.recvFin s id).coarseOf f = some (.receive s id) := by
    simp only [FOp.coarseOf, hc, if_true]
  -- with the ENDMARKER back the queue is not empty, so the remaining put-backs commute with the receive
  have hcomm : ∀ k, Comm (putBack f.st (s, id)) k (.receive s id) := by
    intro k hs hid
    have hs' : s = k.1 := hs
    have hid' : id = k.2 := hid
    subst hs' hid'
    obtain ⟨_, _, m, hq⟩ := hok
    rw [putBack_queue, if_pos rfl, hq, pushEnd_replicate, List.replicate_succ]
    simp
  unfold SimOK
  rw [hco, fstep_recvFin fails f s id hc hok]
  constructor
  · intro k hk'
    rw [eraseOne_eq_erase] at hk'
    exact step_handOK fails _ k _ (hcomm k) nofun ((hinv k (List.mem_of_mem_erase hk')).putBack (s, id))
  · show step fails f.abs (.receive s id) = _
    rw [FState.abs, foldl_putBack_erase f.hand f.st (s, id) hk, step_foldl_putBack fails _ _ _ (fun k _ => hcomm k)]
    rfl

theorem sim_step (fails : Item → Bool) (f : FState) (op : FOp) (hinv : FInv f) (hr : Reachable fails f.abs)
    (hg : op.respectsHands f = true) : SimOK fails f op := by
  cases op with
  | coarse op => exact simOK_coarse fails f op hinv hr hg
  | recvGet s id =>
    by_cases h : ((f.st.side s).chans id).alive = true ∧
        ∃ q, ((f.st.side s).chans id).queue = some (QItem.endmarker :: q)
    · obtain ⟨ha, q, hq⟩ := h
      exact simOK_recvGet_take fails f s id q hinv hr ha hq
    · obtain ⟨h1, h2⟩ := recvGet_eq_receive fails f s id h
      have := simOK_coarse fails f (.receive s id) hinv hr rfl
      unfold SimOK at this ⊢
      rw [h1, h2]; exact this
  | recvFin s id =>
    cases hc : f.hand.contains (s, id)
    · exact simOK_recvFin_none fails f s id hinv hc
    · exact simOK_recvFin_some fails f s id hinv hc

theorem frun_cons (fails : Item → Bool) (f : FState) (op : FOp) (ops : List FOp) :
    (frun fails f (op :: ops)).2 = (frun fails (fstep fails f op).2 ops).2 := rfl

theorem run_cons (fails : Item → Bool) (st : State) (op : Op) (ops : List Op) :
    run fails st (op :: ops) =
      ((step fails st op).1 :: (run fails (step fails st op).2 ops).1, (run fails (step fails st op).2 ops).2) := rfl

theorem refines_gen (fails : Item → Bool) (fops : List FOp) (f : FState) (hinv : FInv f)
    (hr : Reachable fails f.abs) (hg : guardedRun fails f fops = true) :
    run fails f.abs (project fails f fops) = (visibleOuts fails f fops, (frun fails f fops).2.abs) ∧
      FInv (frun fails f fops).2 := by
  induction fops generalizing f with
  | nil => exact ⟨rfl, hinv⟩
  | cons op ops ih =>
    simp only [guardedRun, Bool.and_eq_true] at hg
    obtain ⟨hg1, hg2⟩ := hg
    obtain ⟨hinv', hsim⟩ := sim_step fails f op hinv hr hg1
    rw [frun_cons]
    cases hco : op.coarseOf f with
    | none =>
      rw [hco] at hsim
      have h := ih (fstep fails f op).2 hinv' (hsim ▸ hr) hg2
      simp only [project, visibleOuts, hco]
      rw [← hsim]; exact h
    | some cop =>
      rw [hco] at hsim
      have hr' : Reachable fails (fstep fails f op).2.abs := by
        have := hr.step cop
        rw [hsim] at this; exact this
      have h := ih (fstep fails f op).2 hinv' hr' hg2
      simp only [project, visibleOuts, hco]
      rw [run_cons, hsim]
      simp only
      rw [h.1]; exact ⟨rfl, h.2⟩

theorem abs_finit : finit.abs = init := rfl

end ExecnetVerif.Net.Fine
