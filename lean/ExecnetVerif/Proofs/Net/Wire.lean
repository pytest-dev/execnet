/-
Net invariants G1 (`WireInv`: wire conservation) and G2 (`KeptInv`: delivery bookkeeping), and the
general form of C02: what a side keeps is a subsequence of what the peer sent.
-/
import ExecnetVerif.Proofs.Net.Cell
namespace ExecnetVerif.Net

theorem UserStep.wire {fails : Item → Bool} {x x' : SideSt} {o : Out} (h : UserStep fails x o x') (k : Nat) :
    ∃ l, x'.sent k = x.sent k ++ l ∧ dataOf k x'.out = dataOf k x.out ++ l := by
  cases h with
  | send id v =>
    by_cases hk : k = id
    · subst hk; exact ⟨[v], by simp, by simp⟩
    · exact ⟨[], by simp [upd_ne _ _ hk], by simp [Ne.symm hk]⟩
  | close | execFinish | remoteExec | dropFrame => exact ⟨[], by simp, by simp⟩
  | _ => exact ⟨[], (List.append_nil _).symm, (List.append_nil _).symm⟩

theorem handle_delivered (fails : Item → Bool) (x : SideSt) (w : Bool) (f : Frame) (k : Nat) :
    (handle fails x w f).delivered k = x.delivered k ++ dataOf k [f] := by
  have data : ∀ id v, upd x.delivered id (x.delivered id ++ [v]) k = x.delivered k ++ dataOf k [.data id v] := by
    intro id v
    by_cases e : k = id
    · subst e; simp
    · simp [upd_ne _ _ e, Ne.symm e]
  apply handle_cases fails x w f (P := fun y => y.delivered k = x.delivered k ++ dataOf k [f])
  case cbFail => rintro id v rfl - - -; rw [localClose_eq]; exact data id v
  case cbEnd => rintro id v rfl - - -; exact data id v
  case cbOk => rintro id v rfl - -; exact data id v
  case queued => rintro id v rfl - - -; exact data id v
  case dropped => rintro id v rfl - -; exact data id v
  case closing =>
    intro id err so h; rw [localClose_eq]
    obtain rfl | ⟨_, rfl⟩ | rfl := Frame.of_closeArgs h <;> exact (List.append_nil _).symm
  case exec => rintro id rfl -; exact (List.append_nil _).symm
  case noExec => rintro id rfl -; exact (List.append_nil _).symm
  case terminate => rintro rfl; exact (List.append_nil _).symm

theorem handle_delivered_of_not_isData (fails : Item → Bool) (x : SideSt) (w : Bool) {f : Frame}
    (h : f.isData = false) : (handle fails x w f).delivered = x.delivered := by
  funext k; rw [handle_delivered, dataOf_cons_of_not_isData k [] h]; exact List.append_nil _

theorem WireInv_step (fails : Item → Bool) (st : State) (op : Op) (hi : WireInv st) :
    WireInv (step fails st op).2 := by
  refine step_cases (P := fun r => WireInv r.2) fails st op (fun _ _ => hi) (fun s o x' hu t k => ?_)
    (fun p f rest _ ho t k => ?_) (fun p _ t k => ?_)
  · rcases Side.self_or_peer s t with rfl | rfl
    · obtain ⟨l, h1, h2⟩ := hu.wire k
      rw [State.side_set_same, State.side_set_peer, h1, h2, hi s k, List.append_assoc]
    · rw [State.side_set_peer, Side.peer_peer, State.side_set_same, hu.recvSame.delivered]
      simpa using hi s.peer k
  · rcases Side.self_or_peer p t with rfl | rfl
    · simpa [peerAfter] using hi p k
    · have := hi p.peer k
      rw [ho, Side.peer_peer] at this
      rw [State.side_set_same, Side.peer_peer, State.side_peer_set, State.side_set_same, handle_delivered]
      show (st.side p.peer).sent k = _ ++ dataOf k rest
      rw [this, List.append_assoc, ← dataOf_append]; rfl
  · rcases Side.self_or_peer p t with rfl | rfl
    · simpa [peerAfter] using hi p k
    · simpa [peerAfter] using hi p.peer k

theorem WireInv_init : WireInv init := by
  intro s id; cases s <;> rfl

theorem WireInv_reachable {fails : Item → Bool} {st : State} (h : Reachable fails st) : WireInv st :=
  Reachable.induction (P := WireInv) WireInv_init (fun st op _ hi => WireInv_step fails st op hi) st h

/-- the projection of one side onto the fields `WireInv` and `KeptInv` talk about is unchanged
(`out` only up to non-DATA frames) -/
structure SideSt.LogSame (x x' : SideSt) : Prop where
  sent : x'.sent = x.sent
  delivered : x'.delivered = x.delivered
  kept : x'.kept = x.kept
  dropped : x'.dropped = x.dropped
  out : ∀ id, dataOf id x'.out = dataOf id x.out

/-- `KeptInv` for one cell -/
def KeptC (c : Cell) : Prop := List.Sublist c.kept c.delivered ∧ (c.dropped = false → c.kept = c.delivered)

/-- only the receiver's three ways of handling a DATA item touch `kept`, `delivered` or `dropped` -/
theorem KeptC.step {fails : Item → Bool} {i : Nat} {c c' : Cell} {w : List Frame}
    (hs : CellStep fails i c w c') (h : KeptC c) : KeptC c' := by
  cases hs with
  | acceptCb v | acceptQ v => exact ⟨h.1.append (.refl _), fun hd => congrArg (· ++ [v]) (h.2 hd)⟩
  | dropItem v => exact ⟨h.1.trans (List.sublist_append_left _ _), fun hd => nomatch hd⟩
  | close | execFinish => unfold Cell.chanClose; split <;> exact h
  | _ => exact h

theorem KeptInv_step (fails : Item → Bool) (st : State) (op : Op) (hi : KeptInv st) :
    KeptInv (step fails st op).2 :=
  fun p i => cell_inv (J := fun _ => True) (fun _ _ => trivial) (fun hs _ => KeptC.step hs) st op p i trivial (hi p i)

theorem KeptInv_init : KeptInv init := by
  intro p id; cases p <;> simp [init, initSide]

theorem KeptInv_reachable {fails : Item → Bool} {st : State} (h : Reachable fails st) : KeptInv st :=
  Reachable.induction (P := KeptInv) KeptInv_init (fun st op _ hi => KeptInv_step fails st op hi) st h

/-- **C02 (general form)**: the items a side keeps on a channel are a subsequence, in order, of the
items the peer sent on it -/
theorem C02_in_order_general {fails : Item → Bool} {st : State} (h : Reachable fails st) :
    ∀ (p : Side) (id : Nat), List.Sublist ((st.side p).kept id) ((st.side p.peer).sent id) := by
  intro p id
  have hw := WireInv_reachable h p.peer id
  rw [Side.peer_peer] at hw
  rw [hw]
  exact ((KeptInv_reachable h p id).1).trans (List.sublist_append_left _ _)

end ExecnetVerif.Net
