/-
The helper equations of `Plumbing.lean` read field by field, in the namespaces `Net` (suffix `_cb`), `SP`
and `CP`; `CP` has its own cut of the DATA handler (`dataPre`, `cbAccept`, `failOut`, `qAccept`).
-/
import ExecnetVerif.Proofs.Net.Plumbing
namespace ExecnetVerif.Net

theorem Side.peer_ne_cb (s : Side) : s.peer ≠ s := Side.peer_ne s
theorem Side.ne_peer_cb (s : Side) : s ≠ s.peer := Side.ne_peer s
theorem Side.peer_peer_cb (s : Side) : s.peer.peer = s := Side.peer_peer s

theorem State.side_set_self (st : State) (s : Side) (x : SideSt) : (st.set s x).side s = x :=
  State.side_set_same st s x

theorem State.side_set_peer_cb (st : State) (s : Side) (x : SideSt) :
    (st.set s x).side s.peer = st.side s.peer :=
  State.side_set_peer st s x

theorem State.side_peer_set_cb (st : State) (s : Side) (x : SideSt) :
    (st.set s.peer x).side s = st.side s :=
  State.side_peer_set st s x

theorem Side.eq_or_peer (s p : Side) : p = s ∨ p = s.peer := Side.eq_or_eq_peer s p

theorem State.side_A_cb (st : State) : st.side .A = st.a := rfl
theorem State.side_B_cb (st : State) : st.side .B = st.b := rfl

theorem upd_apply_cb {α : Type} (f : Nat → α) (k i : Nat) (v : α) :
    upd f k v i = if i = k then v else f i := rfl

end ExecnetVerif.Net

namespace ExecnetVerif.Net.SP
open ExecnetVerif.Net

theorem Side.peer_ne (s : Side) : s.peer ≠ s := Net.Side.peer_ne s
theorem Side.ne_peer (s : Side) : s ≠ s.peer := Net.Side.ne_peer s
theorem Side.peer_peer (s : Side) : s.peer.peer = s := Net.Side.peer_peer s
theorem Side.eq_or_eq_peer (p s : Side) : p = s ∨ p = s.peer := Net.Side.eq_or_eq_peer s p
theorem State.side_set_self (st : State) (s : Side) (x : SideSt) :
    (st.set s x).side s = x := Net.State.side_set_same st s x
theorem State.side_set_peer (st : State) (s : Side) (x : SideSt) :
    (st.set s x).side s.peer = st.side s.peer := Net.State.side_set_peer st s x
theorem State.side_peer_set (st : State) (s : Side) (x : SideSt) :
    (st.set s.peer x).side s = st.side s := Net.State.side_peer_set st s x
theorem State.side_set_ne (st : State) {s p : Side} (x : SideSt) (h : p ≠ s) :
    (st.set s x).side p = st.side p := Net.State.side_set_of_ne st x h
theorem State.side_A (st : State) : st.side .A = st.a := rfl
theorem State.side_B (st : State) : st.side .B = st.b := rfl
theorem createAt_got (x : SideSt) (id : Nat) : (createAt x id).got = x.got := rfl
theorem createAt_kept (x : SideSt) (id : Nat) : (createAt x id).kept = x.kept := rfl
theorem createAt_cbs (x : SideSt) (id : Nat) : (createAt x id).cbs = x.cbs := rfl
theorem createAt_ioOpen (x : SideSt) (id : Nat) : (createAt x id).ioOpen = x.ioOpen := rfl
theorem createAt_out (x : SideSt) (id : Nat) : (createAt x id).out = x.out := rfl
theorem createAt_finished (x : SideSt) (id : Nat) : (createAt x id).finished = x.finished := rfl
theorem registerAll_nil (x : SideSt) : registerAll x [] = x := rfl
theorem registerAll_cons (x : SideSt) (id : Nat) (ids : List Nat) :
    registerAll x (id :: ids) = registerAll (createAt x id) ids := rfl
theorem registerAll_got (x : SideSt) (ids : List Nat) : (registerAll x ids).got = x.got :=
  Net.registerAll_got x ids
theorem registerAll_kept (x : SideSt) (ids : List Nat) : (registerAll x ids).kept = x.kept :=
  Net.registerAll_kept x ids
theorem registerAll_ioOpen (x : SideSt) (ids : List Nat) :
    (registerAll x ids).ioOpen = x.ioOpen := Net.registerAll_ioOpen x ids
theorem registerAll_out (x : SideSt) (ids : List Nat) : (registerAll x ids).out = x.out :=
  Net.registerAll_out x ids
theorem registerAll_finished (x : SideSt) (ids : List Nat) :
    (registerAll x ids).finished = x.finished := Net.registerAll_finished x ids
theorem registerAll_broken_mono (x : SideSt) (ids : List Nat) (i : Nat) (h : x.broken i = true) :
    (registerAll x ids).broken i = true := Net.registerAll_broken_mono x ids h
theorem noLongerOpened_got (x : SideSt) (id : Nat) : (noLongerOpened x id).got = x.got := rfl
theorem noLongerOpened_kept (x : SideSt) (id : Nat) : (noLongerOpened x id).kept = x.kept := rfl
theorem noLongerOpened_broken (x : SideSt) (id : Nat) :
    (noLongerOpened x id).broken = x.broken := rfl
theorem noLongerOpened_cbs (x : SideSt) (id : Nat) :
    (noLongerOpened x id).cbs = upd x.cbs id none := rfl
theorem noLongerOpened_chans (x : SideSt) (id : Nat) :
    (noLongerOpened x id).chans = upd x.chans id { x.chans id with registered := false } := rfl
theorem doClose_fst (x : SideSt) (id : Nat) (f : Frame) :
    (doClose x id f).1 = .ok ∨ ((doClose x id f).1 = .osError ∧ (doClose x id f).2 = x) := by
  rw [doClose_eq]; split
  · exact .inr ⟨rfl, rfl⟩
  · exact .inl rfl
theorem epilogue_got (x : SideSt) (b : Bool) : (epilogue x b).got = x.got := rfl
theorem epilogue_kept (x : SideSt) (b : Bool) : (epilogue x b).kept = x.kept := rfl
theorem epilogue_broken (x : SideSt) (b : Bool) : (epilogue x b).broken = x.broken := rfl
theorem epilogue_cbs (x : SideSt) (b : Bool) : (epilogue x b).cbs = fun _ => none := rfl

end ExecnetVerif.Net.SP

namespace ExecnetVerif.Net.CP
open ExecnetVerif.Net

theorem peer_ne (s : Side) : s.peer ≠ s := by cases s <;> simp [Side.peer]
theorem ne_peer (s : Side) : s ≠ s.peer := by cases s <;> simp [Side.peer]

theorem side_A (st : State) : st.a = st.side .A := rfl
theorem side_B (st : State) : st.b = st.side .B := rfl
theorem peer_A : Side.A.peer = .B := rfl
theorem peer_B : Side.B.peer = .A := rfl
theorem side_set_AB (st : State) (x : SideSt) : (st.set .A x).side .B = st.side .B := rfl
theorem side_set_BA (st : State) (x : SideSt) : (st.set .B x).side .A = st.side .A := rfl

section createAt
variable (x : SideSt) (id : Nat)
theorem createAt_cbs : (createAt x id).cbs = x.cbs := rfl
theorem createAt_count : (createAt x id).count = x.count := rfl
theorem createAt_finished : (createAt x id).finished = x.finished := rfl
theorem createAt_gwerr : (createAt x id).gwerr = x.gwerr := rfl
theorem createAt_ioOpen : (createAt x id).ioOpen = x.ioOpen := rfl
theorem createAt_out : (createAt x id).out = x.out := rfl
theorem createAt_sent : (createAt x id).sent = x.sent := rfl
theorem createAt_got : (createAt x id).got = x.got := rfl
theorem createAt_kept : (createAt x id).kept = x.kept := rfl
theorem createAt_delivered : (createAt x id).delivered = x.delivered := rfl
theorem createAt_cbLog : (createAt x id).cbLog = x.cbLog := rfl
theorem createAt_dropped : (createAt x id).dropped = x.dropped := rfl
theorem createAt_cbWants : (createAt x id).cbWants = x.cbWants := rfl
theorem createAt_ended : (createAt x id).ended = x.ended := rfl
theorem createAt_closeSeen : (createAt x id).closeSeen = x.closeSeen := rfl
theorem createAt_closeSent : (createAt x id).closeSent = x.closeSent := rfl
theorem createAt_chans : (createAt x id).chans = upd x.chans id (createChan (x.chans id)) := rfl
theorem createAt_broken : (createAt x id).broken = upd x.broken id
    (x.broken id || (((x.chans id).created || x.ended id) && !(x.chans id).registered)) := rfl
end createAt

theorem registerAll_nil (x : SideSt) : registerAll x [] = x := rfl

section registerAll
variable (x : SideSt) (ids : List Nat)

theorem registerAll_broken_not_mem {j : Nat} (h : j ∉ ids) :
    (registerAll x ids).broken j = x.broken j := 
  Net.registerAll_broken_of_not_mem x h

end registerAll

section noLongerOpened
variable (x : SideSt) (id : Nat)
theorem nlo_count : (noLongerOpened x id).count = x.count := rfl
theorem nlo_finished : (noLongerOpened x id).finished = x.finished := rfl
theorem nlo_gwerr : (noLongerOpened x id).gwerr = x.gwerr := rfl
theorem nlo_ioOpen : (noLongerOpened x id).ioOpen = x.ioOpen := rfl
theorem nlo_out : (noLongerOpened x id).out = x.out := rfl
theorem nlo_sent : (noLongerOpened x id).sent = x.sent := rfl
theorem nlo_got : (noLongerOpened x id).got = x.got := rfl
theorem nlo_kept : (noLongerOpened x id).kept = x.kept := rfl
theorem nlo_delivered : (noLongerOpened x id).delivered = x.delivered := rfl
theorem nlo_dropped : (noLongerOpened x id).dropped = x.dropped := rfl
theorem nlo_broken : (noLongerOpened x id).broken = x.broken := rfl
theorem nlo_cbWants : (noLongerOpened x id).cbWants = x.cbWants := rfl
theorem nlo_ended : (noLongerOpened x id).ended = x.ended := rfl
theorem nlo_closeSeen : (noLongerOpened x id).closeSeen = x.closeSeen := rfl
theorem nlo_closeSent : (noLongerOpened x id).closeSent = x.closeSent := rfl
theorem nlo_chans : (noLongerOpened x id).chans =
    upd x.chans id { x.chans id with registered := false } := rfl
theorem nlo_cbs : (noLongerOpened x id).cbs = upd x.cbs id none := rfl
theorem nlo_chans_ne {j : Nat} (h : j ≠ id) : (noLongerOpened x id).chans j = x.chans j := by
  simp [upd_ne, h]
theorem nlo_cbs_ne {j : Nat} (h : j ≠ id) : (noLongerOpened x id).cbs j = x.cbs j := by
  simp [upd_ne, h]
theorem nlo_cbLog_ne {j : Nat} (h : j ≠ id) : (noLongerOpened x id).cbLog j = x.cbLog j := by
  simp [noLongerOpened, upd_ne, h]
end noLongerOpened

section localClose
variable (x : SideSt) (id : Nat) (err : Option Nat) (so : Bool)
theorem localClose_count : (localClose x id err so).count = x.count := by rw [localClose_eq]
theorem localClose_sent : (localClose x id err so).sent = x.sent := by rw [localClose_eq]
theorem localClose_delivered : (localClose x id err so).delivered = x.delivered := by rw [localClose_eq]
theorem localClose_dropped : (localClose x id err so).dropped = x.dropped := by rw [localClose_eq]
theorem localClose_cbWants : (localClose x id err so).cbWants = x.cbWants := by rw [localClose_eq]
end localClose

section chanClose
variable (x : SideSt) (id : Nat) (err : Option Nat)
theorem chanClose_gwerr : (chanClose x id err).2.gwerr = x.gwerr :=
  Net.chanClose_gwerr x id err
theorem chanClose_broken : (chanClose x id err).2.broken = x.broken :=
  Net.chanClose_broken x id err
end chanClose

section epilogue
variable (x : SideSt) (isCut : Bool)
theorem epilogue_finished : (epilogue x isCut).finished = true := rfl
theorem epilogue_ioOpen : (epilogue x isCut).ioOpen = false := rfl
theorem epilogue_gwerr : (epilogue x isCut).gwerr = (x.gwerr || isCut) := rfl
theorem epilogue_cbs (id : Nat) : (epilogue x isCut).cbs id = none := rfl
theorem epilogue_closeSeen : (epilogue x isCut).closeSeen = x.closeSeen := rfl
theorem epilogue_closeSent : (epilogue x isCut).closeSent = x.closeSent := rfl
end epilogue

/-- the DATA frame is counted as handled -/
def dataPre (x : SideSt) (id : Nat) (v : Item) : SideSt :=
  { x with delivered := upd x.delivered id (x.delivered id ++ [v]) }

/-- DATA frame accepted by a registered callback (before the callback's verdict) -/
def cbAccept (x : SideSt) (id : Nat) (v : Item) : SideSt :=
  let x1 := registerAll (dataPre x id v) v.chans
  { x1 with cbLog := upd x1.cbLog id (x1.cbLog id ++ [.item v]),
            got := upd x1.got id (x1.got id ++ [v]),
            kept := upd x1.kept id (x1.kept id ++ [v]) }

/-- the failing callback's CLOSE_ERROR frame (written while the IO is still open) -/
def failOut (x : SideSt) (id : Nat) (e : Nat) : SideSt :=
  { x with out := x.out ++ [.closeErr id e], closeSent := upd x.closeSent id true }

/-- DATA frame accepted into the queue of the registered channel object -/
def qAccept (x : SideSt) (id : Nat) (v : Item) : SideSt :=
  let x1 := registerAll (dataPre x id v) v.chans
  { x1 with chans := upd x1.chans id { x1.chans id with queue := ((x1.chans id).queue.map (· ++ [.item v])) },
            kept := upd x1.kept id (x1.kept id ++ [v]) }

theorem failOut_eq (x : SideSt) (id e : Nat) : failOut x id e = writeCloseErr x id e := rfl

section failOut
variable (x : SideSt) (id : Nat) (e : Nat)
theorem failOut_cbs : (failOut x id e).cbs = x.cbs := rfl
theorem failOut_count : (failOut x id e).count = x.count := rfl
theorem failOut_finished : (failOut x id e).finished = x.finished := rfl
theorem failOut_gwerr : (failOut x id e).gwerr = x.gwerr := rfl
theorem failOut_ioOpen : (failOut x id e).ioOpen = x.ioOpen := rfl
theorem failOut_sent : (failOut x id e).sent = x.sent := rfl
theorem failOut_got : (failOut x id e).got = x.got := rfl
theorem failOut_kept : (failOut x id e).kept = x.kept := rfl
theorem failOut_delivered : (failOut x id e).delivered = x.delivered := rfl
theorem failOut_cbLog : (failOut x id e).cbLog = x.cbLog := rfl
theorem failOut_dropped : (failOut x id e).dropped = x.dropped := rfl
theorem failOut_cbWants : (failOut x id e).cbWants = x.cbWants := rfl
theorem failOut_ended : (failOut x id e).ended = x.ended := rfl
theorem failOut_closeSeen : (failOut x id e).closeSeen = x.closeSeen := rfl
end failOut

section dataPre
variable (x : SideSt) (id : Nat) (v : Item)
theorem dataPre_chans : (dataPre x id v).chans = x.chans := rfl
theorem dataPre_cbs : (dataPre x id v).cbs = x.cbs := rfl
theorem dataPre_count : (dataPre x id v).count = x.count := rfl
theorem dataPre_finished : (dataPre x id v).finished = x.finished := rfl
theorem dataPre_gwerr : (dataPre x id v).gwerr = x.gwerr := rfl
theorem dataPre_ioOpen : (dataPre x id v).ioOpen = x.ioOpen := rfl
theorem dataPre_out : (dataPre x id v).out = x.out := rfl
theorem dataPre_sent : (dataPre x id v).sent = x.sent := rfl
theorem dataPre_got : (dataPre x id v).got = x.got := rfl
theorem dataPre_kept : (dataPre x id v).kept = x.kept := rfl
theorem dataPre_cbLog : (dataPre x id v).cbLog = x.cbLog := rfl
theorem dataPre_dropped : (dataPre x id v).dropped = x.dropped := rfl
theorem dataPre_broken : (dataPre x id v).broken = x.broken := rfl
theorem dataPre_cbWants : (dataPre x id v).cbWants = x.cbWants := rfl
theorem dataPre_ended : (dataPre x id v).ended = x.ended := rfl
theorem dataPre_closeSeen : (dataPre x id v).closeSeen = x.closeSeen := rfl
theorem dataPre_closeSent : (dataPre x id v).closeSent = x.closeSent := rfl
end dataPre

section cbAccept
variable (x : SideSt) (id : Nat) (v : Item)
theorem cbAccept_count : (cbAccept x id v).count = x.count := by simp [cbAccept, dataPre]
theorem cbAccept_finished : (cbAccept x id v).finished = x.finished := by simp [cbAccept, dataPre]
theorem cbAccept_sent : (cbAccept x id v).sent = x.sent := by simp [cbAccept, dataPre]
theorem cbAccept_dropped : (cbAccept x id v).dropped = x.dropped := by simp [cbAccept, dataPre]
theorem cbAccept_cbWants : (cbAccept x id v).cbWants = x.cbWants := by simp [cbAccept, dataPre]
theorem cbAccept_ended : (cbAccept x id v).ended = x.ended := by simp [cbAccept, dataPre]
end cbAccept

section qAccept
variable (x : SideSt) (id : Nat) (v : Item)
theorem qAccept_count : (qAccept x id v).count = x.count := by simp [qAccept, dataPre]
theorem qAccept_finished : (qAccept x id v).finished = x.finished := by simp [qAccept, dataPre]
theorem qAccept_gwerr : (qAccept x id v).gwerr = x.gwerr := by simp [qAccept, dataPre]
theorem qAccept_ioOpen : (qAccept x id v).ioOpen = x.ioOpen := by simp [qAccept, dataPre]
theorem qAccept_sent : (qAccept x id v).sent = x.sent := by simp [qAccept, dataPre]
theorem qAccept_dropped : (qAccept x id v).dropped = x.dropped := by simp [qAccept, dataPre]
theorem qAccept_cbWants : (qAccept x id v).cbWants = x.cbWants := by simp [qAccept, dataPre]
theorem qAccept_ended : (qAccept x id v).ended = x.ended := by simp [qAccept, dataPre]
end qAccept

section handle
variable (fails : Item → Bool) (x : SideSt) (w : Bool)

def endsReceiver (fails : Item → Bool) (x : SideSt) : Frame → Bool
  | .terminate => true
  | .data id v => (x.cbs id).isSome && fails v && !x.ioOpen
  | _ => false

theorem handle_finished_true (f : Frame) (hf : endsReceiver fails x f = true) :
    (handle fails x w f).finished = true := by
  rw [Net.handle_finished, show Net.endsReceiver fails x f = true from hf, Bool.or_true]

end handle

end ExecnetVerif.Net.CP
