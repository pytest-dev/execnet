/-
G5 `CbInv`, inductive only together with the auxiliary clauses `CbAux` and given `ShapeInv` (used by
`setcallback` only).  The proof works on the `View` of one cell, the fields the two invariants read:
every `CellStep` acts on it by `View.create`, `View.close`, `View.cbItem`, … and each preserves `View.OK`.
Last, what C10 reads off `CbInv`: the ENDMARKER is logged at most once and last, is logged when wanted once the
conversation has ended, and `receive` and a second `setcallback` are refused in callback mode.
-/
import ExecnetVerif.Proofs.Net.Shape
namespace ExecnetVerif.Net

/-- what `CbInv` needs in addition to be inductive (per side and id):
queue mode means `setcallback` was never called; `setcallback` was only ever called on a created
object; a record that is closed for receiving means the conversation ended at this side -/
def CbAux (st : State) : Prop :=
  ∀ (p : Side) (id : Nat),
    let x := st.side p
    let c := x.chans id
    (x.broken id = false → ∀ q, c.queue = some q → x.cbWants id = none) ∧
    (c.created = false → x.cbWants id = none) ∧
    (x.broken id = false → c.rclosed = true → x.ended id = true)

def CbAll (st : State) : Prop := CbAux st ∧ CbInv st

/-- the fields of one side the callback invariants mention for one channel id -/
structure View where
  queue : Option (List QItem)
  registered : Bool
  created : Bool
  rclosed : Bool
  cbs : Option Bool
  cbLog : List CbEvent
  got : List Item
  broken : Bool
  cbWants : Option Bool
  ended : Bool

/-- `createAt` on the view -/
def View.create (v : View) : View :=
  if v.registered then v
  else { v with queue := some [], registered := true, created := true,
                rclosed := false, broken := v.broken || (v.created || v.ended) }

/-- the callback log after the callback (if any) has been popped and its endmarker fired -/
def View.endLog (v : View) : List CbEvent := Net.endLog v.cbs v.cbLog

/-- `localClose` / `doClose` / `epilogue` on the view: `b` = the record is marked closed,
`e` = `ended` is set -/
def View.close (b e : Bool) (v : View) : View :=
  { v with queue := if b then pushEnd v.queue else v.queue,
           registered := false,
           rclosed := v.rclosed || b,
           cbs := none,
           cbLog := v.endLog,
           ended := v.ended || e }

/-- a DATA item handed to the callback -/
def View.cbItem (v : View) (i : Item) : View :=
  { v with cbLog := v.cbLog ++ [.item i], got := v.got ++ [i] }

def EndLast (l : List CbEvent) : Prop := ∀ pre post, l = pre ++ CbEvent.endmarker :: post → post = []

/-- the clauses of `CbInv` (`c1`–`c9`) and of `CbAux` (`a1`–`a3`), in their order, for one view -/
structure View.OK (v : View) : Prop where
  c1 : ∀ w, v.cbs = some w → v.broken = false → v.queue = none ∧ v.cbWants = some w ∧ v.ended = false
  c2 : v.broken = false → EndLast v.cbLog
  c3 : v.broken = false → CbEvent.endmarker ∈ v.cbLog → v.cbs = none
  c4 : v.cbWants = none → v.cbLog = [] ∧ v.cbs = none
  c5 : ∀ w, v.cbWants = some w → v.ended = false → v.broken = false → v.cbs = some w
  c6 : v.cbWants = some true → v.ended = true → v.broken = false → CbEvent.endmarker ∈ v.cbLog
  c7 : v.broken = false → CbEvent.endmarker ∈ v.cbLog → v.cbWants = some true
  c8 : v.broken = false → ∃ pre, v.got = pre ++ cbItems v.cbLog
  c9 : v.ended = true → v.broken = false → v.registered = false
  a1 : v.broken = false → ∀ q, v.queue = some q → v.cbWants = none
  a2 : v.created = false → v.cbWants = none
  a3 : v.broken = false → v.rclosed = true → v.ended = true

def Cell.view (c : Cell) : View :=
  { queue := c.chan.queue, registered := c.chan.registered, created := c.chan.created,
    rclosed := c.chan.rclosed, cbs := c.cb, cbLog := c.cbLog, got := c.got, broken := c.broken,
    cbWants := c.cbWants, ended := c.ended }

theorem CbAll_iff (st : State) : CbAll st ↔ ∀ p id, ((st.side p).cell id).view.OK := by
  constructor
  · intro ⟨ha, hi⟩ p id
    obtain ⟨a1, a2, a3⟩ := ha p id
    obtain ⟨c1, c2, c3, c4, c5, c6, c7, c8, c9⟩ := hi p id
    exact ⟨c1, c2, c3, c4, c5, c6, c7, c8, c9, a1, a2, a3⟩
  · intro h
    exact ⟨fun p id => ⟨(h p id).a1, (h p id).a2, (h p id).a3⟩,
      fun p id => ⟨(h p id).c1, (h p id).c2, (h p id).c3, (h p id).c4, (h p id).c5, (h p id).c6,
        (h p id).c7, (h p id).c8, (h p id).c9⟩⟩

theorem cbItems_append (l1 l2 : List CbEvent) : cbItems (l1 ++ l2) = cbItems l1 ++ cbItems l2 := by
  induction l1 with
  | nil => rfl
  | cons e t ih => cases e <;> simp [cbItems, ih]

@[simp] theorem cbItems_map_item (vs : List Item) : cbItems (vs.map CbEvent.item) = vs := by
  induction vs with
  | nil => rfl
  | cons v t ih => simp [cbItems, ih]

theorem EndLast_of_not_mem {l : List CbEvent} (h : CbEvent.endmarker ∉ l) : EndLast l := by
  intro pre post e
  exact absurd (by rw [e]; simp) h

theorem EndLast_append_end {l : List CbEvent} (h : CbEvent.endmarker ∉ l) :
    EndLast (l ++ [CbEvent.endmarker]) := by
  intro pre post e
  rcases List.eq_nil_or_concat post with rfl | ⟨post', z, rfl⟩
  · rfl
  · exfalso
    have e' : l ++ [CbEvent.endmarker] = (pre ++ CbEvent.endmarker :: post') ++ [z] := by
      rw [e]; simp
    have := List.append_inj_left' e' rfl
    exact h (by rw [this]; simp)

theorem View.OK.create {v : View} (h : v.OK) : v.create.OK := by
  unfold View.create
  by_cases hr : v.registered = true
  · simpa [hr] using h
  · obtain ⟨c1, c2, c3, c4, c5, c6, c7, c8, c9, a1, a2, a3⟩ := h
    simp only [hr, Bool.false_eq_true, ↓reduceIte]
    -- an id that is not marked `broken` now was never created and has not ended here, so `setcallback`
    -- was never called (`a2`): no callback and no callback event (`c4`)
    have key : (v.broken || (v.created || v.ended)) = false →
        v.ended = false ∧ v.cbWants = none ∧ v.cbLog = [] ∧ v.cbs = none := by
      intro hb; simp only [Bool.or_eq_false_iff] at hb
      exact ⟨hb.2.2, a2 hb.2.1, c4 (a2 hb.2.1)⟩
    constructor <;> simp only []
    case c1 => intro w hw hb; rw [(key hb).2.2.2] at hw; cases hw
    case c2 => intro hb; rw [(key hb).2.2.1]; exact EndLast_of_not_mem (by simp)
    case c3 => intro hb hm; rw [(key hb).2.2.1] at hm; cases hm
    case c4 => exact c4
    case c5 => intro w hw _ hb; rw [(key hb).2.1] at hw; cases hw
    case c6 => intro _ he hb; rw [(key hb).1] at he; cases he
    case c7 => intro hb hm; rw [(key hb).2.2.1] at hm; cases hm
    case c8 => intro hb; exact ⟨v.got, by rw [(key hb).2.2.1]; simp [cbItems]⟩
    case c9 => intro he hb; rw [(key hb).1] at he; cases he
    case a1 => intro hb _ _; exact (key hb).2.1
    case a2 => intro h; cases h
    case a3 => intro _ h; cases h

theorem View.OK.close {v : View} (h : v.OK) (b e : Bool)
    (h2 : ∀ w, v.cbs = some w → e = true) (h3 : b = true → e = true) : (v.close b e).OK := by
  obtain ⟨c1, c2, c3, c4, c5, c6, c7, c8, c9, a1, a2, a3⟩ := h
  have hlog : v.endLog = v.cbLog ∨ (v.cbs = some true ∧ v.endLog = v.cbLog ++ [CbEvent.endmarker]) := by
    unfold View.endLog Net.endLog; split <;> simp_all
  have hq : ∀ q, (if b = true then pushEnd v.queue else v.queue) = some q → ∃ q', v.queue = some q' := by
    intro q; cases hv : v.queue <;> cases b <;> simp [pushEnd]
  constructor <;> simp only [View.close, Bool.or_eq_true, Bool.or_eq_false_iff]
  case c2 =>
    intro hb
    rcases hlog with h | ⟨h, h'⟩
    · rw [h]; exact c2 hb
    · rw [h']; exact EndLast_append_end (fun hm => by have := c3 hb hm; simp_all)
  case c6 =>
    intro hw he hb
    rcases hlog with h | ⟨h, h'⟩
    · rw [h]
      cases hev : v.ended
      · have := c5 true hw hev hb
        simp [View.endLog, Net.endLog, this] at h
      · exact c6 hw hev hb
    · rw [h']; simp
  case c7 =>
    intro hb hm
    rcases hlog with h | ⟨h, h'⟩
    · rw [h] at hm; exact c7 hb hm
    · exact (c1 true h hb).2.1
  case c8 =>
    intro hb
    obtain ⟨pre, hp⟩ := c8 hb
    refine ⟨pre, ?_⟩
    rcases hlog with h | ⟨h, h'⟩
    · rw [h]; exact hp
    · rw [h', cbItems_append]; simpa [cbItems] using hp
  case a1 =>
    intro hb q hq'
    obtain ⟨q', hq''⟩ := hq q hq'
    exact a1 hb q' hq''
  -- `c1`, `c3`–`c5`, `c9`, `a2`, `a3`: the callback is gone, `registered` cleared and `ended` set with
  -- `rclosed`: vacuous, or the clause of `v`
  all_goals grind

theorem View.OK.cbItem {v : View} (h : v.OK) (w : Bool) (hw : v.cbs = some w) (i : Item) :
    (v.cbItem i).OK := by
  obtain ⟨c1, c2, c3, c4, c5, c6, c7, c8, c9, a1, a2, a3⟩ := h
  have hm : CbEvent.endmarker ∈ v.cbLog ++ [CbEvent.item i] → CbEvent.endmarker ∈ v.cbLog := by simp
  -- the clauses that mention `cbLog` or `got` are `c2`–`c4` and `c6`–`c8`
  refine ⟨c1, fun hb => ?_, fun hb h => c3 hb (hm h), (fun h => by rw [(c4 h).2] at hw; cases hw), c5,
    fun h he hb => List.mem_append_left _ (c6 h he hb), fun hb h => c7 hb (hm h), fun hb => ?_, c9, a1, a2, a3⟩
  · exact EndLast_of_not_mem fun h => by rw [c3 hb (hm h)] at hw; cases hw
  · obtain ⟨pre, hp⟩ := c8 hb
    exact ⟨pre, by show v.got ++ [i] = pre ++ cbItems (v.cbLog ++ [.item i]); rw [cbItems_append, hp]; simp [cbItems]⟩

theorem View.OK.setQueue {v : View} (h : v.OK) (q' : Option (List QItem)) (r : Bool)
    (hq : q' = none ↔ v.queue = none) (hr : r = true → v.registered = true) :
    ({ v with queue := q', registered := r } : View).OK := by
  obtain ⟨c1, c2, c3, c4, c5, c6, c7, c8, c9, a1, a2, a3⟩ := h
  -- only `c1`, `c9` and `a1` mention the queue or `registered`
  refine ⟨fun w hw hb => ⟨hq.2 (c1 w hw hb).1, (c1 w hw hb).2⟩, c2, c3, c4, c5, c6, c7, c8,
    fun he hb => ?_, fun hb q hq' => ?_, a2, a3⟩
  · cases hr' : r with
    | false => rfl
    | true => rw [c9 he hb] at hr; exact nomatch hr hr'
  · cases hv : v.queue with
    | none => rw [hq.2 hv] at hq'; cases hq'
    | some q0 => exact a1 hb q0 hv

theorem View.OK.receive {v : View} (h : v.OK) (q q' : List QItem) (hq : v.queue = some q) (i : Item) :
    ({ v with queue := some q', got := v.got ++ [i] } : View).OK := by
  obtain ⟨c1, c2, c3, c4, c5, c6, c7, c8, c9, a1, a2, a3⟩ := h
  -- queue mode stays: no callback (`c1`) and no callback events yet (`c8`)
  refine ⟨fun w hw hb => ?_, c2, c3, c4, c5, c6, c7, fun hb => ?_, c9, fun hb _ _ => a1 hb q hq, a2, a3⟩
  · have := (c1 w hw hb).1; rw [hq] at this; cases this
  · exact ⟨v.got ++ [i], by simp [(c4 (a1 hb q hq)).1, cbItems]⟩

theorem drain_spec (fails : Item → Bool) (q : List QItem) :
    ((drain fails q).2.1 = true → (drain fails q).2.2 = false) ∧
    ((drain fails q).2.1 = false → (drain fails q).2.2 = false → q = (drain fails q).1.map QItem.item) ∧
    ((drain fails q).2.2 = true → QItem.endmarker ∈ q) := by
  induction q with
  | nil => simp [drain]
  | cons a t ih =>
    cases a with
    | endmarker => simp [drain]
    | item v =>
      by_cases hf : fails v = true
      · simp [drain, hf]
      · simp only [drain, hf, Bool.false_eq_true, ↓reduceIte]
        obtain ⟨i1, i2, i3⟩ := ih
        refine ⟨i1, ?_, ?_⟩
        · intro h1 h2; simp [← i2 h1 h2]
        · intro h; simp [i3 h]

theorem View.OK.setcb {v : View} (h : v.OK) (q : List QItem) (hq : v.queue = some q) (vs : List Item)
    (raised sawEnd w : Bool) (hcr : v.created = true)
    (hend : sawEnd = true → v.rclosed = true)
    (hreg : raised = false → sawEnd = false → v.registered = true ∧ v.rclosed = false) :
    ({ v with queue := none, cbWants := some w, got := v.got ++ vs,
              cbLog := v.cbLog ++ vs.map CbEvent.item ++ (if (sawEnd && w) = true then [CbEvent.endmarker] else []),
              broken := v.broken || raised,
              cbs := if (!raised && !sawEnd) = true then some w else v.cbs } : View).OK := by
  obtain ⟨c1, c2, c3, c4, c5, c6, c7, c8, c9, a1, a2, a3⟩ := h
  cases hb : (v.broken || raised)
  · simp only [Bool.or_eq_false_iff] at hb
    obtain ⟨hb, hr⟩ := hb
    have hw := a1 hb q hq
    obtain ⟨hlog, hcbs⟩ := c4 hw
    subst hr
    simp only [hlog, hcbs, List.nil_append, Bool.not_false, Bool.true_and]
    -- queue mode until now (`a1`): no callback events yet (`c4`), the log is the drained items
    cases sawEnd
    · -- no ENDMARKER met: the record is registered and open, the conversation has not ended (`c9`)
      obtain ⟨hreg', hrc⟩ := hreg rfl rfl
      have hne : v.ended = false := by
        cases he : v.ended
        · rfl
        · have := c9 he hb; simp_all
      constructor <;> simp [hne, hcr, hrc, EndLast_of_not_mem]
    · -- an ENDMARKER was met: the conversation has ended here (`a3`); it is logged iff wanted
      have he := a3 hb (hend rfl)
      -- `simp` leaves `c9`, which is `c9` of `v`, and `c2` when the ENDMARKER is logged
      cases w
      · constructor <;> simp [he, hcr, EndLast_of_not_mem]
        exact c9 he hb
      · constructor <;> simp [he, hcr, cbItems_append, cbItems]
        · exact EndLast_append_end (by simp)
        · exact c9 he hb
  · -- the callback raised: the id is marked `broken`, only `a2` is left to show
    constructor <;> simp [hcr]

theorem Cell.view_create (c : Cell) : c.create.view = c.view.create := by
  cases hr : c.chan.registered <;>
    simp [Cell.view, Cell.create, View.create, hr, createChan_of_registered, createChan_of_not_registered]

theorem Cell.view_localClose (c : Cell) (err : Option Nat) (so : Bool) :
    (c.localClose err so).view = c.view.close c.chan.registered true := by
  cases hr : c.chan.registered <;> simp [Cell.view, Cell.localClose, View.close, View.endLog, closedRec, hr]

theorem Cell.view_epilogue (c : Cell) :
    c.epilogue.view = c.view.close c.chan.registered (c.chan.registered || c.cb.isSome) := by
  cases hr : c.chan.registered <;> simp [Cell.view, Cell.epilogue, View.close, View.endLog, eofRec, hr]

theorem View.OK.chanClose {c : Cell} (h : c.view.OK) (io : Bool) : (c.chanClose io).view.OK := by
  unfold Cell.chanClose; split
  · exact h
  · have := h.close true true (fun _ _ => rfl) (fun _ => rfl)
    simpa [Cell.view, View.close, View.endLog, userClosedRec] using this

theorem View.OK.setcb_of_shape {fails : Item → Bool} {c : Cell} (h : c.view.OK) (hs : c.chan.Shape) (w : Bool)
    {q : List QItem} (ha : c.chan.alive = true) (hq : c.chan.queue = some q) :
    ({ (c.setcb fails w q).view with
        broken := c.broken || (drain fails q).2.1,
        cbs := if (!(drain fails q).2.1 && !(drain fails q).2.2) = true then some w else c.cb } : View).OK ∧
    ((drain fails q).2.1 = false → (drain fails q).2.2 = false → (c.chan.closed || c.chan.rclosed) = false) := by
  obtain ⟨hshape, hcl, hreg, hal, hunreg, -, -⟩ := hs
  have hcr := hal ha
  obtain ⟨items, k, hqk, hk⟩ := hshape q hq
  obtain ⟨s1, s2, s3⟩ := drain_spec fails q
  have hend : (drain fails q).2.2 = true → c.chan.rclosed = true := by
    intro he
    have hm := s3 he
    cases hrc : c.chan.rclosed
    · have : k = 0 := hk.2 hrc
      subst this
      simp [hqk] at hm
    · rfl
  have hrg : (drain fails q).2.1 = false → (drain fails q).2.2 = false →
      c.chan.registered = true ∧ c.chan.rclosed = false := by
    intro h1 h2
    have hq2 := s2 h1 h2
    have hrc : c.chan.rclosed = false := by
      apply hk.1
      cases k with
      | zero => rfl
      | succ k =>
        have : QItem.endmarker ∈ q := by rw [hqk]; simp [List.replicate_succ]
        rw [hq2] at this
        simp at this
    refine ⟨?_, hrc⟩
    cases hr : c.chan.registered
    · have := hunreg hcr ha hr
      simp [hrc] at this
    · rfl
  refine ⟨h.setcb q hq _ _ _ w hcr hend hrg, fun h1 h2 => ?_⟩
  cases hc : c.chan.closed with
  | false => simp [(hrg h1 h2).2]
  | true => have := hcl hc; rw [(hrg h1 h2).2] at this; cases this

theorem View.OK.step {fails : Item → Bool} {i : Nat} {c c' : Cell} {w : List Frame}
    (hs : CellStep fails i c w c') (hsh : c.chan.Shape) (h : c.view.OK) : c'.view.OK := by
  cases hs with
  | create | remoteExec | exec => exact c.view_create ▸ h.create
  | send | waitErr | dropItem => exact h
  | close io err => exact h.chanClose io
  | execFinish io err => exact View.OK.chanClose (c := { c with chan := { c.chan with executing := false } }) h io
  | cbFailed | peerClose => rw [Cell.view_localClose]; exact h.close _ true (fun _ _ => rfl) (fun _ => rfl)
  | epilogue =>
    rw [Cell.view_epilogue]
    exact h.close _ _ (fun w (hw : c.cb = some w) => by simp [hw]) (fun hr => by simp [hr])
  | recvItem v q _ hq => exact h.receive _ q hq v
  | recvEnd q es _ hq => exact h.setQueue _ c.chan.registered (by simp [Cell.view, hq]) id
  | drop => exact h.setQueue c.chan.queue false Iff.rfl (fun hr => nomatch hr)
  | setcbRaised w q ha hq hr =>
    have := (h.setcb_of_shape (fails := fails) hsh w ha hq).1
    simpa [Cell.view, Cell.setcb, hr] using this
  | setcbDone w q ha hq hr he =>
    obtain ⟨key, hno⟩ := h.setcb_of_shape (fails := fails) hsh w ha hq
    have he' : (drain fails q).2.2 = true := by
      rcases he with he | he
      · exact he
      · cases h2 : (drain fails q).2.2 with
        | true => rfl
        | false => rw [hno hr h2] at he; cases he
    simpa [Cell.view, Cell.setcb, hr, he'] using key
  | setcbReg w q ha hq hr he =>
    have := (h.setcb_of_shape (fails := fails) hsh w ha hq).1
    simpa [Cell.view, Cell.setcb, hr, he] using this
  | acceptCb v hcb =>
    obtain ⟨w, hw⟩ := Option.isSome_iff_exists.1 hcb
    exact h.cbItem w hw v
  | acceptQ v _ _ hq =>
    exact h.setQueue (c.chan.queue.map (· ++ [.item v])) c.chan.registered
      (by obtain ⟨q, hq⟩ := Option.isSome_iff_exists.1 hq; simp [Cell.view, hq]) id

theorem CbAll_init : CbAll init :=
  (CbAll_iff init).2 fun p id => by
    cases p <;> constructor <;> simp [init, initSide, SideSt.cell, Cell.view, EndLast, cbItems]

theorem CbAll_step (fails : Item → Bool) (st : State) (op : Op) :
    ShapeInv st → CbAll st → CbAll (step fails st op).2 :=
  fun hS h => (CbAll_iff _).2 fun p id =>
    cell_inv Chan.Shape.step View.OK.step st op p id (hS p id) ((CbAll_iff st).1 h p id)

theorem CbInv_init : CbInv init := CbAll_init.2

theorem CbAux_init : CbAux init := CbAll_init.1

theorem CbAux_step (fails : Item → Bool) (st : State) (op : Op) :
    ShapeInv st → CbAux st → CbInv st → CbAux (step fails st op).2 :=
  fun hS ha hi => (CbAll_step fails st op hS ⟨ha, hi⟩).1

theorem CbInv_step (fails : Item → Bool) (st : State) (op : Op) :
    ShapeInv st → CbAux st → CbInv st → CbInv (step fails st op).2 :=
  fun hS ha hi => (CbAll_step fails st op hS ⟨ha, hi⟩).2

theorem CbAll_reachable {fails : Item → Bool} {st : State} (h : Reachable fails st) : CbAll st :=
  Reachable.induction CbAll_init (fun st op hr h => CbAll_step fails st op (ShapeInv_reachable hr) h) st h

theorem viewOK_reachable {fails : Item → Bool} {st : State} (h : Reachable fails st) (p : Side) (id : Nat) :
    ((st.side p).cell id).view.OK :=
  (CbAll_iff st).1 (CbAll_reachable h) p id

theorem count_endmarker_le_one {l : List CbEvent} (h : EndLast l) : l.count CbEvent.endmarker ≤ 1 := by
  induction l with
  | nil => simp
  | cons a t ih =>
    cases a with
    | item v =>
      have : EndLast t := fun pre post e => h (CbEvent.item v :: pre) post (by simp [e])
      simpa [List.count_cons] using ih this
    | endmarker =>
      have : t = [] := h [] t rfl
      simp [this]

theorem getLast_of_EndLast {l : List CbEvent} (h : EndLast l) (hm : CbEvent.endmarker ∈ l) :
    l.getLast? = some CbEvent.endmarker := by
  obtain ⟨pre, post, e⟩ := List.append_of_mem hm
  have := h pre post e
  subst this
  simp [e]

theorem C10_endmarker_once {st : State} (p : Side) (id : Nat) (h : CbInv st)
    (hb : (st.side p).broken id = false) :
    ((st.side p).cbLog id).count .endmarker ≤ 1 ∧
    (.endmarker ∈ (st.side p).cbLog id → ((st.side p).cbLog id).getLast? = some .endmarker) := by
  have h2 : EndLast ((st.side p).cbLog id) := (h p id).2.1 hb
  exact ⟨count_endmarker_le_one h2, getLast_of_EndLast h2⟩

theorem C10_endmarker_eventually {st : State} (p : Side) (id : Nat) (h : CbInv st)
    (hw : (st.side p).cbWants id = some true) (he : (st.side p).ended id = true)
    (hb : (st.side p).broken id = false) : CbEvent.endmarker ∈ (st.side p).cbLog id :=
  (h p id).2.2.2.2.2.1 hw he hb

theorem C10_receive_refused (fails : Item → Bool) (st : State) (p : Side) (id : Nat) (w : Bool)
    (ha : ((st.side p).chans id).alive = true) (hq : ((st.side p).chans id).queue = none) :
    (step fails st (.receive p id)).1 = .osError ∧ (step fails st (.setcallback p id w)).1 = .osError := by
  simp [step, ha, hq]

end ExecnetVerif.Net
