/-
Frame locality: handling a frame touches only the channel the frame is about and the channels carried
inside a DATA item.  The one exception, as in the code: a callback that fails when the IO has already
been closed cannot write its CLOSE_ERROR; the OSError escapes the handler and ends the receiver thread.
Hence the hypotheses `x.ioOpen = true`.
-/
import ExecnetVerif.Proofs.Net.Cell
namespace ExecnetVerif.Net

/-- the channel id a frame is about -/
def Frame.target : Frame → Option Nat
  | .data id _ => some id
  | .close id => some id
  | .closeErr id _ => some id
  | .lastMsg id => some id
  | .exec id => some id
  | .terminate => none

/-- the channel ids carried inside a DATA item -/
def Frame.carried : Frame → List Nat
  | .data _ v => v.chans
  | _ => []

theorem handle_cell_ne (fails : Item → Bool) (x : SideSt) (w : Bool) (f : Frame) {id j : Nat}
    (hio : x.ioOpen = true) (ht : f.target = some id) (hj : j ≠ id) (hc : j ∉ f.carried) :
    (handle fails x w f).cell j = x.cell j := by
  apply handle_cases fails x w f (P := fun y => y.cell j = x.cell j)
  case cbEnd => intro _ _ _ _ _ hio'; rw [hio] at hio'; cases hio'
  case noExec => exact fun _ _ _ => rfl
  case terminate => rintro rfl; cases ht
  case closing =>
    intro i err so hf
    have hi : i = id := by obtain rfl | ⟨_, rfl⟩ | rfl := Frame.of_closeArgs hf <;> simpa [Frame.target] using ht
    subst hi
    rw [localClose_cell, upd_ne _ _ hj, closeSeen_cell, upd_ne _ _ hj]
  case exec => rintro i rfl -; cases ht; rw [execAt_cell, upd_ne _ _ hj]
  -- a DATA frame: each piece rewrites the cell of `id` on top of the cells `registerAll` created
  all_goals
    rintro i v rfl; intros; cases ht
    simp only [localClose_cell, writeCloseErr_cell, acceptCb_cell, acceptQ_cell, dropItem_cell,
      registerAll_cell, upd_ne _ _ hj, if_neg (show j ∉ v.chans from hc)]

theorem C07_isolation (fails : Item → Bool) (x : SideSt) (w : Bool) (f : Frame) (id : Nat) :
    x.ioOpen = true → f.target = some id → ∀ j, j ≠ id → j ∉ f.carried →
      (handle fails x w f).chans j = x.chans j ∧ (handle fails x w f).cbs j = x.cbs j ∧
      (handle fails x w f).cbLog j = x.cbLog j ∧ (handle fails x w f).got j = x.got j ∧
      (handle fails x w f).kept j = x.kept j := fun hio ht _ hj hc =>
  have h := handle_cell_ne fails x w f hio ht hj hc
  ⟨congrArg Cell.chan h, congrArg Cell.cb h, congrArg Cell.cbLog h, congrArg Cell.got h, congrArg Cell.kept h⟩

theorem C07_connection_stays (fails : Item → Bool) (x : SideSt) (w : Bool) (f : Frame) :
    f ≠ .terminate → x.ioOpen = true →
      (handle fails x w f).finished = x.finished ∧ (handle fails x w f).ioOpen = x.ioOpen ∧
      (handle fails x w f).gwerr = x.gwerr := by
  intro hf hio
  apply handle_cases fails x w f
    (P := fun y => y.finished = x.finished ∧ y.ioOpen = x.ioOpen ∧ y.gwerr = x.gwerr)
  case cbEnd => intro _ _ _ _ _ hio'; rw [hio] at hio'; cases hio'
  case terminate => exact fun e => absurd e hf
  case cbFail => intros; rw [localClose_eq]; exact ⟨rfl, rfl, rfl⟩
  case closing => intros; rw [localClose_eq]; exact ⟨rfl, rfl, rfl⟩
  all_goals intros; exact ⟨rfl, rfl, rfl⟩

/-- the one exception: a callback that fails after the IO was closed cannot write its CLOSE_ERROR; the
receiver thread ends (without a remembered connection error) and nothing is written -/
theorem C07_failing_callback_io_closed (fails : Item → Bool) (x : SideSt) (wk : Bool) (id : Nat) (v : Item)
    (w : Bool) : x.cbs id = some w → fails v = true → x.ioOpen = false →
      (handle fails x wk (.data id v)).finished = true ∧
      (handle fails x wk (.data id v)).out = x.out ∧
      (handle fails x wk (.data id v)).gwerr = x.gwerr := by
  intro hcb hf hio
  rw [handle_data]
  simp [hcb, hf, hio, epilogue, acceptCb]

theorem C07_failing_callback (fails : Item → Bool) (x : SideSt) (wk : Bool) (id : Nat) (v : Item) (w : Bool) :
    x.cbs id = some w → fails v = true → x.ioOpen = true →
      (handle fails x wk (.data id v)).out = x.out ++ [.closeErr id v.val] ∧
      (handle fails x wk (.data id v)).cbs id = none ∧
      ((handle fails x wk (.data id v)).chans id).registered = false ∧
      ((x.chans id).registered = true →
        ((handle fails x wk (.data id v)).chans id).closed = true ∧
        ((handle fails x wk (.data id v)).chans id).rclosed = true ∧
        ((handle fails x wk (.data id v)).chans id).rerrs = (x.chans id).rerrs ++ [v.val]) := by
  intro hcb hf hio
  rw [handle_data]
  simp only [hcb, Option.isSome_some, hf, hio, if_true]
  rw [localClose_eq]
  refine ⟨rfl, upd_same .., ?_, fun hr => ?_⟩ <;> dsimp only [writeCloseErr, acceptCb] <;> rw [upd_same]
  · unfold closedRec; split
    · rfl
    · next h => simpa using h
  · rw [registerAll_chans_of_registered _ hr]
    simp [closedRec, hr]

theorem C18_travel (fails : Item → Bool) (x : SideSt) (wk : Bool) (id : Nat) (v : Item)
    (hx : ∀ j, (x.chans j).registered = true → (x.chans j).created = true ∧ (x.chans j).alive = true)
    (hacc : x.cbs id ≠ none ∨ ((x.chans id).registered = true ∧ (x.chans id).queue ≠ none))
    (hio : x.cbs id ≠ none → fails v = true → x.ioOpen = true) :
    ∀ c ∈ v.chans,
      ((handle fails x wk (.data id v)).chans c).created = true ∧
      ((handle fails x wk (.data id v)).chans c).alive = true ∧
      (((handle fails x wk (.data id v)).chans c).registered = true ∨
        (c = id ∧ x.cbs id ≠ none ∧ fails v = true ∧
          ((handle fails x wk (.data id v)).chans c).closed = true)) := by
  intro c hc
  have hreg : ((registerAll x v.chans).chans c).created = true ∧ ((registerAll x v.chans).chans c).alive = true ∧
      ((registerAll x v.chans).chans c).registered = true := by
    -- `ChannelFactory.new` returns the registered object, which is live by `hx`, or a fresh live one
    rw [registerAll_chans_of_mem x hc, createChan_created, createChan_alive]
    cases hr : (x.chans c).registered
    · simp
    · simp [hx c hr]
  apply handle_cases fails x wk (.data id v)
    (P := fun y => (y.chans c).created = true ∧ (y.chans c).alive = true ∧
      ((y.chans c).registered = true ∨ (c = id ∧ x.cbs id ≠ none ∧ fails v = true ∧ (y.chans c).closed = true)))
  case cbFail =>
    rintro _ _ ⟨⟩ hcb hf _
    rw [localClose_eq]
    dsimp only [writeCloseErr, acceptCb]
    by_cases hci : c = id
    · subst hci
      rw [upd_same]
      have hne : x.cbs c ≠ none := fun e => by rw [e] at hcb; cases hcb
      simp [closedRec, hreg.2.2, hreg.1, hreg.2.1, hne, hf]
    · rw [upd_ne _ _ hci]; exact ⟨hreg.1, hreg.2.1, Or.inl hreg.2.2⟩
  case cbEnd =>
    rintro _ _ ⟨⟩ hcb hf hio'
    rw [hio (fun e => by rw [e] at hcb; cases hcb) hf] at hio'; cases hio'
  case cbOk => rintro _ _ ⟨⟩ _ _; exact ⟨hreg.1, hreg.2.1, Or.inl hreg.2.2⟩
  case queued =>
    rintro _ _ ⟨⟩ _ _ _
    dsimp only [acceptQ]
    by_cases hci : c = id
    · subst hci; rw [upd_same]; exact ⟨hreg.1, hreg.2.1, Or.inl hreg.2.2⟩
    · rw [upd_ne _ _ hci]; exact ⟨hreg.1, hreg.2.1, Or.inl hreg.2.2⟩
  case dropped =>
    rintro _ _ ⟨⟩ hcb hn
    rcases hacc with h | ⟨hr, hq⟩
    · exact absurd hcb h
    · exact absurd ⟨hr, Option.isSome_iff_ne_none.2 hq⟩ hn
  case closing => exact fun _ _ _ h => by cases h
  case exec => exact fun _ h => by cases h
  case noExec => exact fun _ h => by cases h
  case terminate => exact fun h => by cases h

end ExecnetVerif.Net
