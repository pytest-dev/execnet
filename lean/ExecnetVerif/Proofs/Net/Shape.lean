/-
G3 `ShapeInv`: the shape of one channel record is preserved by every step of the `Net` model.
-/
import ExecnetVerif.Proofs.Net.Cell
namespace ExecnetVerif.Net

def QShape (q : List QItem) (rc : Bool) : Prop :=
  ∃ (items : List Item) (k : Nat),
    q = items.map QItem.item ++ List.replicate k QItem.endmarker ∧ (k = 0 ↔ rc = false)

theorem Chan.queueShape_iff (c : Chan) :
    c.QueueShape ↔ ∀ q, c.queue = some q → QShape q c.rclosed := Iff.rfl

theorem QShape.nil : QShape [] false := ⟨[], 0, rfl, by simp⟩

theorem QShape.eq_false_of_nil {rc : Bool} (h : QShape [] rc) : rc = false := by
  obtain ⟨items, k, h1, h2⟩ := h
  cases k with
  | zero => exact h2.1 rfl
  | succ k => simp [List.replicate_succ] at h1

theorem QShape.pushEnd {q : List QItem} {rc : Bool} (h : QShape q rc) :
    QShape (q ++ [.endmarker]) true := by
  obtain ⟨items, k, rfl, _⟩ := h
  exact ⟨items, k + 1, by simp [List.replicate_succ'], by simp⟩

theorem QShape.pushItem {q : List QItem} (v : Item) (h : QShape q false) :
    QShape (q ++ [.item v]) false := by
  obtain ⟨items, k, rfl, hk⟩ := h
  have : k = 0 := hk.2 rfl
  subst this
  exact ⟨items ++ [v], 0, by simp, by simp⟩

theorem QShape.tail_item {v : Item} {q : List QItem} {rc : Bool} (h : QShape (.item v :: q) rc) :
    QShape q rc := by
  obtain ⟨items, k, he, hk⟩ := h
  cases items with
  | nil =>
    cases k with
    | zero => simp at he
    | succ k => simp [List.replicate_succ] at he
  | cons a t =>
    simp only [List.map_cons, List.cons_append, List.cons.injEq] at he
    exact ⟨t, k, he.2, hk⟩

theorem QShape.head_end {q : List QItem} {rc : Bool} (h : QShape (.endmarker :: q) rc) :
    rc = true ∧ ∃ k, q = List.replicate k QItem.endmarker := by
  obtain ⟨items, k, he, hk⟩ := h
  cases items with
  | nil =>
    cases k with
    | zero => simp at he
    | succ k =>
      simp only [List.map_nil, List.nil_append, List.replicate_succ, List.cons.injEq, true_and] at he
      refine ⟨?_, k, he⟩
      cases rc <;> simp at hk ⊢
  | cons a t => simp at he

theorem QShape.rotate_end {q : List QItem} {rc : Bool} (h : QShape (.endmarker :: q) rc) :
    QShape (q ++ [.endmarker]) rc := by
  obtain ⟨hrc, k, rfl⟩ := h.head_end
  subst hrc
  exact ⟨[], k + 1, by simp [List.replicate_succ'], by simp⟩

/-- The body of `ShapeInv` for one record: `ShapeInv st` is `∀ p id, ((st.side p).chans id).Shape` by `rfl`.  The
type of `ShapeInv_reachable h p id` is the unfolded conjunction, so the accessors below are called on it by full
name, `Chan.Shape.of_registered (ShapeInv_reachable h p id)`, or after ascribing the type. -/
def Chan.Shape (c : Chan) : Prop :=
  c.QueueShape ∧
  (c.closed = true → c.rclosed = true) ∧
  (c.registered = true → c.created = true ∧ c.alive = true ∧ c.closed = false ∧ c.rclosed = false) ∧
  (c.alive = true → c.created = true) ∧
  (c.created = true → c.alive = true → c.registered = false → c.rclosed = true) ∧
  (c.executing = true → c.alive = true) ∧
  (c.created = false → c.queue = some [] ∧ c.closed = false ∧ c.rclosed = false ∧ c.rerrs = [] ∧ c.executing = false)

theorem Chan.Shape.queue {c : Chan} (h : c.Shape) : c.QueueShape := h.1
theorem Chan.Shape.rclosed_of_closed {c : Chan} (h : c.Shape) : c.closed = true → c.rclosed = true := h.2.1
theorem Chan.Shape.of_registered {c : Chan} (h : c.Shape) : c.registered = true →
    c.created = true ∧ c.alive = true ∧ c.closed = false ∧ c.rclosed = false := h.2.2.1
theorem Chan.Shape.created_of_alive {c : Chan} (h : c.Shape) : c.alive = true → c.created = true := h.2.2.2.1
theorem Chan.Shape.rclosed_of_unregistered {c : Chan} (h : c.Shape) :
    c.created = true → c.alive = true → c.registered = false → c.rclosed = true := h.2.2.2.2.1
theorem Chan.Shape.alive_of_executing {c : Chan} (h : c.Shape) : c.executing = true → c.alive = true :=
  h.2.2.2.2.2.1
theorem Chan.Shape.of_not_created {c : Chan} (h : c.Shape) : c.created = false →
    c.queue = some [] ∧ c.closed = false ∧ c.rclosed = false ∧ c.rerrs = [] ∧ c.executing = false :=
  h.2.2.2.2.2.2

def SideShape (x : SideSt) : Prop := ∀ id, (x.chans id).Shape

theorem ShapeInv_iff (st : State) : ShapeInv st ↔ ∀ p, SideShape (st.side p) := Iff.rfl

theorem shape_default : ({} : Chan).Shape := by
  refine ⟨?_, by simp, by simp, by simp, by simp, by simp, by simp⟩
  intro q hq; cases hq; exact QShape.nil

theorem shape_fresh : ({ created := true, registered := true, alive := true } : Chan).Shape := by
  refine ⟨?_, by simp, by simp, by simp, by simp, by simp, by simp⟩
  intro q hq; cases hq; exact QShape.nil

theorem shape_createChan {c : Chan} (h : c.Shape) : (createChan c).Shape := by
  unfold createChan; split
  · exact h
  · exact shape_fresh

theorem queueShape_pushEnd {c c' : Chan} (h : c.QueueShape) (hq : c'.queue = pushEnd c.queue)
    (hr : c'.rclosed = true) : c'.QueueShape := by
  intro q hq'
  rw [hq] at hq'
  cases hc : c.queue with
  | none => simp [hc, pushEnd] at hq'
  | some q0 =>
    simp only [hc, pushEnd, Option.map_some, Option.some.injEq] at hq'
    subst hq'; rw [hr]; exact QShape.pushEnd (h q0 hc)

theorem shape_closing {c c' : Chan} (h : c.Shape) (hcr : c.created = true)
    (hq : c'.queue = pushEnd c.queue) (hr : c'.rclosed = true) (hreg : c'.registered = false)
    (h1 : c'.created = c.created) (h2 : c'.alive = c.alive) (h3 : c'.executing = c.executing) :
    c'.Shape := by
  obtain ⟨s1, s2, s3, s4, s5, s6, s7⟩ := h
  refine ⟨queueShape_pushEnd s1 hq hr, fun _ => hr, ?_, ?_, fun _ _ _ => hr, ?_, ?_⟩
  · simp [hreg]
  · rw [h1, h2]; exact s4
  · rw [h2, h3]; exact s6
  · rw [h1, hcr]; simp

theorem shape_closedRec {c : Chan} (h : c.Shape) (err : Option Nat) (so : Bool) : (closedRec c err so).Shape := by
  unfold closedRec; split
  · next hr => exact shape_closing h (h.of_registered hr).1 rfl rfl rfl rfl rfl rfl
  · exact h

theorem shape_userClosedRec {c : Chan} (h : c.Shape) (hcr : c.created = true) :
    (userClosedRec c).Shape :=
  shape_closing h hcr rfl rfl rfl rfl rfl rfl

theorem shape_eofRec {c : Chan} (h : c.Shape) : (eofRec c).Shape := by
  unfold eofRec; split
  · next hr => exact shape_closing h (h.of_registered hr).1 rfl rfl rfl rfl rfl rfl
  · exact h

theorem shape_modify {c c' : Chan} (h : c.Shape) (hcr : c.created = true) (hq : c'.QueueShape)
    (h1 : c'.created = c.created) (h2 : c'.alive = c.alive) (h3 : c'.registered = c.registered)
    (h4 : c'.closed = c.closed) (h5 : c'.rclosed = c.rclosed)
    (h6 : c'.executing = true → c'.alive = true) : c'.Shape := by
  obtain ⟨s1, s2, s3, s4, s5, s6, s7⟩ := h
  refine ⟨hq, ?_, ?_, ?_, ?_, h6, ?_⟩
  · rw [h4, h5]; exact s2
  · rw [h1, h2, h3, h4, h5]; exact s3
  · rw [h1, h2]; exact s4
  · rw [h1, h2, h3, h5]; exact s5
  · rw [h1, hcr]; simp

theorem shape_pushItem {c : Chan} (h : c.Shape) (hr : c.registered = true) (v : Item) :
    ({ c with queue := c.queue.map (· ++ [.item v]) } : Chan).Shape := by
  have h3 := h.of_registered hr
  refine shape_modify h h3.1 ?_ rfl rfl rfl rfl rfl h.alive_of_executing
  intro q hq
  cases hc : c.queue with
  | none => simp [hc] at hq
  | some q0 =>
    simp only [hc, Option.map_some, Option.some.injEq] at hq
    subst hq
    have := h.queue q0 hc
    rw [h3.2.2.2] at this
    show QShape _ c.rclosed
    rw [h3.2.2.2]
    exact QShape.pushItem v this

theorem Chan.Shape.step {fails : Item → Bool} {i : Nat} {c c' : Cell} {w : List Frame}
    (hs : CellStep fails i c w c') (h : c.chan.Shape) : c'.chan.Shape := by
  have hclose : ∀ {d : Cell} (io : Bool), d.chan.Shape → d.chan.alive = true → (d.chanClose io).chan.Shape := by
    intro d io hd ha
    unfold Cell.chanClose; split
    · exact hd
    · exact shape_userClosedRec hd (hd.created_of_alive ha)
  cases hs with
  | create | remoteExec => exact shape_createChan h
  | exec =>
    have hc := shape_createChan h
    have hr := hc.of_registered (createChan_registered _)
    exact shape_modify hc hr.1 hc.queue rfl rfl rfl rfl rfl fun _ => hr.2.1
  | send | acceptCb | dropItem => exact h
  | close io err ha => exact hclose io h ha
  | execFinish io err he =>
    have ha := h.alive_of_executing he
    exact hclose (d := { c with chan := { c.chan with executing := false } }) io
      (shape_modify h (h.created_of_alive ha) h.queue rfl rfl rfl rfl rfl (fun h => by simp at h)) ha
  | cbFailed e => exact shape_closedRec (c := Cell.chan { c with closeSent := true }) h _ _
  | peerClose err so => exact shape_closedRec (c := Cell.chan { c with closeSeen := true }) h err so
  | epilogue => exact shape_eofRec h
  | recvItem v q ha hq =>
    refine shape_modify h (h.created_of_alive ha) ?_ rfl rfl rfl rfl rfl h.alive_of_executing
    intro q' hq'; cases hq'; exact QShape.tail_item (h.queue _ hq)
  | recvEnd q es ha hq =>
    refine shape_modify h (h.created_of_alive ha) ?_ rfl rfl rfl rfl rfl h.alive_of_executing
    intro q' hq'; cases hq'; exact QShape.rotate_end (h.queue _ hq)
  | waitErr es ha => exact shape_modify h (h.created_of_alive ha) h.queue rfl rfl rfl rfl rfl h.alive_of_executing
  | drop sent ha he =>
    obtain ⟨s1, s2, s3, s4, s5, s6, s7⟩ := h
    exact ⟨s1, s2, by simp, by simp, by simp, fun h => by simp [he] at h, s7⟩
  | setcbRaised w q ha | setcbDone w q ha | setcbReg w q ha =>
    exact shape_modify h (h.created_of_alive ha) (fun q hq => by cases hq) rfl rfl rfl rfl rfl h.alive_of_executing
  | acceptQ v _ hr => exact shape_pushItem h hr v

theorem ShapeInv_step (fails : Item → Bool) (st : State) (op : Op) (h : ShapeInv st) :
    ShapeInv (step fails st op).2 :=
  fun p i =>
    cell_inv (J := fun _ => True) (fun _ _ => trivial) (fun hs _ => Chan.Shape.step hs) st op p i trivial (h p i)

theorem ShapeInv_init : ShapeInv init := by
  intro p id
  cases p <;> exact shape_default

theorem ShapeInv_reachable {fails : Item → Bool} {st : State} (h : Reachable fails st) : ShapeInv st :=
  Reachable.induction (P := ShapeInv) ShapeInv_init (fun st op _ hs => ShapeInv_step fails st op hs) st h

end ExecnetVerif.Net
