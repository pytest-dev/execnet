/-
A helper of the model that writes one record `k` by a record function `G` and is otherwise blind to the put-back
commutes with the put-back at `id` if `G` commutes with `pbChan` or `k ≠ id` (`pb_comm_of_write`), and keeps an in-hand
record in hand if `G` does (`HandOK.of_write`).  `epilogue` rewrites every record: pointwise through `eofRec`.
-/
import ExecnetVerif.Proofs.Net.FineBasic
namespace ExecnetVerif.Net.Fine
open ExecnetVerif.Net

theorem pb_upd_chans (x : SideSt) {id k : Nat} (G : Chan → Chan) (h : k = id → ∀ c, G (pbChan c) = pbChan (G c)) :
    upd (pb x id).chans k (G ((pb x id).chans k)) = (pb (modChan x k G) id).chans :=
  congrArg SideSt.chans (pb_modChan x G h)

/-- `hblind` is `rfl` unless `f` reads the record it writes for another field -/
theorem pb_comm_of_write (f : SideSt → SideSt) (x : SideSt) (id k : Nat) (G : Chan → Chan)
    (hw : ∀ y, (f y).chans = upd y.chans k (G (y.chans k)))
    (hG : k = id → ∀ c, G (pbChan c) = pbChan (G c))
    (hblind : { f (pb x id) with chans := (pb (f x) id).chans } = pb (f x) id) : f (pb x id) = pb (f x) id := by
  refine SideSt.eq_of_chans ?_ hblind
  rw [hw, pb_upd_chans x G hG, pb_chans, pb_chans, hw]; rfl

/-- a channel record whose ENDMARKER a receiver holds: alive, no longer registered, nothing but ENDMARKERs queued -/
def HandOK (c : Chan) : Prop :=
  c.alive = true ∧ c.registered = false ∧ ∃ m, c.queue = some (List.replicate m QItem.endmarker)

theorem HandOK.of_eq {c c' : Chan} (h : HandOK c) (ha : c'.alive = c.alive) (hr : c'.registered = c.registered)
    (hq : c'.queue = c.queue ∨ c'.queue = pushEnd c.queue) : HandOK c' := by
  obtain ⟨h1, h2, m, h3⟩ := h
  refine ⟨ha.trans h1, hr.trans h2, ?_⟩
  cases hq with
  | inl hq => exact ⟨m, hq.trans h3⟩
  | inr hq => exact ⟨m + 1, by rw [hq, h3, pushEnd_replicate]⟩

theorem HandOK.queue_cons {c : Chan} {a : QItem} {q : List QItem} (h : HandOK c) (hq : c.queue = some (a :: q)) :
    a = .endmarker ∧ some (q ++ [.endmarker]) = c.queue := by
  obtain ⟨_, _, m, hm⟩ := h
  rw [hm] at hq
  cases m with
  | zero => cases hq
  | succ m =>
    rw [List.replicate_succ, Option.some.injEq, List.cons.injEq] at hq
    rw [hm, ← hq.1, ← hq.2, ← List.replicate_succ']; exact ⟨rfl, rfl⟩

theorem HandOK.of_write {x y : SideSt} {id k : Nat} {c : Chan} (h : HandOK (x.chans id))
    (hw : y.chans = upd x.chans k c) (hc : k = id → HandOK c) : HandOK (y.chans id) := by
  rw [hw, upd_apply]
  split
  · next e => exact hc e.symm
  · exact h

theorem HandOK.of_set {st : State} {s : Side} {y : SideSt} {id : Nat} {c : Chan} {k : Side × Nat}
    (hw : y.chans = upd (st.side s).chans id c) (h : k ≠ (s, id) → HandOK ((st.side k.1).chans k.2))
    (hc : k = (s, id) → HandOK c) : HandOK (((st.set s y).side k.1).chans k.2) := by
  obtain ⟨p, i⟩ := k
  by_cases hp : p = s
  · subst hp
    rw [State.side_set_same, hw, upd_apply]
    split
    · next e => exact hc (e ▸ rfl)
    · next e => exact h (fun e' => e (Prod.mk.inj e').2)
  · rw [State.side_set_of_ne _ _ hp]; exact h (fun e => hp (Prod.mk.inj e).1)

theorem createAt_pb (x : SideSt) {id k : Nat} (h : k ≠ id) : createAt (pb x id) k = pb (createAt x k) id :=
  pb_comm_of_write (createAt · k) x id k createChan (fun _ => rfl) (fun e => absurd e h)
    (by simp only [createAt, pb_chans_created, pb_chans_registered, pb_broken, pb_ended]; rfl)

theorem registerAll_pb (x : SideSt) (id : Nat) (ids : List Nat) (h : id ∉ ids) :
    registerAll (pb x id) ids = pb (registerAll x ids) id := by
  induction ids generalizing x with
  | nil => rfl
  | cons k t ih =>
    rw [List.mem_cons, not_or] at h
    rw [registerAll_cons, registerAll_cons, createAt_pb x (Ne.symm h.1), ih _ h.2]

theorem closedRec_pbChan (err : Option Nat) (so : Bool) (c : Chan) :
    closedRec (pbChan c) err so = pbChan (closedRec c err so) := by
  simp only [closedRec, pbChan_registered]; rw [apply_ite pbChan]; rfl

theorem HandOK.closedRec {c : Chan} (h : HandOK c) (err : Option Nat) (so : Bool) : closedRec c err so = c :=
  if_neg (by simp [h.2.1])

theorem localClose_pb (x : SideSt) (id k : Nat) (err : Option Nat) (so : Bool) :
    localClose (pb x id) k err so = pb (localClose x k err so) id :=
  pb_comm_of_write (localClose · k err so) x id k (closedRec · err so) (fun y => by rw [localClose_eq])
    (fun _ => closedRec_pbChan err so) (by rw [localClose_eq, localClose_eq]; rfl)

theorem localClose_handOK (x : SideSt) (id k : Nat) (err : Option Nat) (so : Bool) (h : HandOK (x.chans id)) :
    HandOK ((localClose x k err so).chans id) :=
  h.of_write (by rw [localClose_eq]) (fun e => by subst e; rw [h.closedRec]; exact h)

theorem closedSide_pb (x : SideSt) (id k : Nat) (fr : Frame) : closedSide (pb x id) k fr = pb (closedSide x k fr) id :=
  pb_comm_of_write (closedSide · k fr) x id k userClosedRec (fun _ => rfl) (fun _ _ => rfl) rfl

theorem doClose_pb (x : SideSt) (id k : Nat) (fr : Frame) :
    doClose (pb x id) k fr = pbRes id (doClose x k fr) := by
  simp only [doClose_eq, pb_ioOpen, pb_chans_rclosed, closedSide_pb, pbRes_ite, pbRes_mk]

theorem chanClose_pb (x : SideSt) (id k : Nat) (err : Option Nat) :
    chanClose (pb x id) k err = pbRes id (chanClose x k err) := by
  simp only [chanClose, pb_chans_executing, pb_chans_closed, doClose_pb, pbRes_ite, pbRes_mk]

theorem chanClose_handOK (x : SideSt) (id k : Nat) (err : Option Nat) (h : HandOK (x.chans id)) :
    HandOK ((chanClose x k err).2.chans id) := by
  rw [chanClose_snd]
  split
  · exact h
  · exact h.of_write rfl (fun e => e ▸ h.of_eq rfl h.2.1.symm (.inr rfl))

theorem eofRec_pbChan (c : Chan) : eofRec (pbChan c) = pbChan (eofRec c) := by
  simp only [eofRec, pbChan_registered]; rw [apply_ite pbChan]; rfl

theorem epilogue_pb (x : SideSt) (id : Nat) (isCut : Bool) : epilogue (pb x id) isCut = pb (epilogue x isCut) id := by
  refine SideSt.eq_of_chans ?_ (by simp only [epilogue, pb_chans_registered, pb_ended, pb_cbs]; rfl)
  funext i
  show eofRec ((pb x id).chans i) = (pb (epilogue x isCut) id).chans i
  rw [pb_chans_apply, pb_chans_apply, apply_ite eofRec, eofRec_pbChan]; rfl

theorem epilogue_handOK (x : SideSt) (id : Nat) (isCut : Bool) (h : HandOK (x.chans id)) :
    HandOK ((epilogue x isCut).chans id) := by
  show HandOK (eofRec (x.chans id))
  rw [eofRec, if_neg (by simp [h.2.1])]; exact h

/-- the frame does not re-create (`createAt`) the channel id -/
def frameAvoids (id : Nat) : Frame → Prop
  | .data _ v => id ∉ v.chans
  | .exec k => k ≠ id
  | _ => True

theorem acceptCb_pb (x : SideSt) {id k : Nat} {v : Item} (hv : id ∉ v.chans) :
    acceptCb (pb x id) k v = pb (acceptCb x k v) id := by
  unfold acceptCb; rw [registerAll_pb x id v.chans hv]; rfl

theorem acceptQ_pb (x : SideSt) {id k : Nat} {v : Item} (hv : id ∉ v.chans) (hk : k ≠ id) :
    acceptQ (pb x id) k v = pb (acceptQ x k v) id := by
  unfold acceptQ; rw [registerAll_pb x id v.chans hv]
  exact SideSt.eq_of_chans (pb_upd_chans (registerAll x v.chans)
    (fun c => { c with queue := c.queue.map (· ++ [.item v]) }) (fun e => absurd e hk)) rfl

theorem writeCloseErr_pb (x : SideSt) (id k e : Nat) : writeCloseErr (pb x id) k e = pb (writeCloseErr x k e) id := rfl

theorem execAt_pb (x : SideSt) {id k : Nat} (h : k ≠ id) : execAt (pb x id) k = pb (execAt x k) id :=
  pb_comm_of_write (execAt · k) x id k (fun c => { createChan c with executing := true }) (fun _ => rfl)
    (fun e => absurd e h) (by simp only [execAt, createAt, pb_chans_created, pb_chans_registered, pb_broken, pb_ended]; rfl)

/-- `hreg`: a DATA frame for a registered record would be queued before the ENDMARKER, not after it -/
theorem handle_pb (fails : Item → Bool) (x : SideSt) (w : Bool) (id : Nat) (fr : Frame)
    (hreg : (x.chans id).registered = false) (hfr : frameAvoids id fr) :
    handle fails (pb x id) w fr = pb (handle fails x w fr) id := by
  cases fr with
  | data k v =>
    have hv : id ∉ v.chans := hfr
    have hq : (if ((x.chans k).registered && (x.chans k).queue.isSome) = true then acceptQ (pb x id) k v
        else dropItem (pb x id) k v) =
        pb (if ((x.chans k).registered && (x.chans k).queue.isSome) = true then acceptQ x k v else dropItem x k v) id := by
      by_cases hk : k = id
      · subst hk; simp only [hreg, Bool.false_and, Bool.false_eq_true, if_false]; rfl
      · rw [acceptQ_pb x hv hk, apply_ite (pb · id)]; rfl
    simp only [handle_data, pb_cbs, pb_ioOpen, pb_chans_registered, pb_chans_queue_isSome, acceptCb_pb x hv,
      writeCloseErr_pb, localClose_pb, epilogue_pb, hq, apply_ite (pb · id)]
  | close k => exact localClose_pb { x with closeSeen := upd x.closeSeen k true } id k none false
  | closeErr k e => exact localClose_pb { x with closeSeen := upd x.closeSeen k true } id k (some e) false
  | lastMsg k => exact localClose_pb { x with closeSeen := upd x.closeSeen k true } id k none true
  | exec k => rw [handle_exec, handle_exec, execAt_pb x hfr, apply_ite (pb · id)]
  | terminate => exact epilogue_pb x id false

theorem handle_handOK (fails : Item → Bool) (x : SideSt) (w : Bool) (id : Nat) (fr : Frame)
    (hfr : frameAvoids id fr) (h : HandOK (x.chans id)) : HandOK ((handle fails x w fr).chans id) := by
  have hr : ∀ k v, fr = .data k v → HandOK ((registerAll x v.chans).chans id) := by
    rintro k v rfl; exact (registerAll_chans_of_not_mem x hfr).symm ▸ h
  apply handle_cases fails x w fr (P := fun y => HandOK (y.chans id))
  case cbFail =>
    exact fun k v e _ _ _ => localClose_handOK (writeCloseErr (acceptCb x k v) k v.val) id k _ _ (hr k v e)
  case cbEnd => exact fun k v e _ _ _ => epilogue_handOK (acceptCb x k v) id false (hr k v e)
  case cbOk => exact fun k v e _ _ => hr k v e
  case queued =>
    exact fun k v e _ hreg _ => (hr k v e).of_write rfl (fun e' => by subst e'; rw [h.2.1] at hreg; cases hreg)
  case dropped => exact fun _ _ _ _ _ => h
  case closing => exact fun k err so _ => localClose_handOK _ id k err so h
  case exec => exact fun k e _ => h.of_write rfl (fun e' => absurd e' (e ▸ hfr : frameAvoids id (.exec k)))
  case noExec => exact fun _ _ _ => h
  case terminate => exact fun _ => epilogue_handOK x id false h

end ExecnetVerif.Net.Fine
