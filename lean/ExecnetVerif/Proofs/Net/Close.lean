/-
G7 `CloseInv`: closing frames are ordered after the data of their channel, and once the peer has handled
one it has handled all data of that channel.  It is inductive only with `CloseAux`: a registered callback
belongs to a registered (or dropped) channel object, so the callback-failure path of `handle`, which
writes a CLOSE_ERROR, really closes the object; and a closing frame is only written for an id whose
object was created or whose conversation ended here, so re-opening the id afterwards is detected (`broken`).
Last, the two C03 facts read off `CloseInv`: a side that has handled a closing frame has handled all the data, and
nothing is sent on a channel after its closing frame.
-/
import ExecnetVerif.Proofs.Net.Shape
namespace ExecnetVerif.Net

theorem dataOf_tail_nil {id : Nat} {f : Frame} {l : List Frame} (h : dataOf id (f :: l) = []) :
    dataOf id l = [] := by
  rw [← List.singleton_append, dataOf_append] at h
  exact (List.append_eq_nil_iff.1 h).2

theorem noClosing_append {id : Nat} {l w : List Frame} (h : noClosing id l) (hw : noClosing id w) :
    noClosing id (l ++ w) :=
  fun g hg => (List.mem_append.1 hg).elim (h g) (hw g)

theorem noClosing_tail {id : Nat} {l : List Frame} {f : Frame} (h : noClosing id (f :: l)) :
    noClosing id l := fun g hg => h g (List.mem_cons_of_mem _ hg)

theorem wellOrdered_nil (id : Nat) : wellOrdered id [] := by
  intro pre f post h; simp at h

theorem wellOrdered_cons {id : Nat} {g : Frame} {l : List Frame} :
    wellOrdered id (g :: l) ↔ (Frame.isClosing id g = true → dataOf id l = []) ∧ wellOrdered id l := by
  constructor
  · intro h
    refine ⟨fun hg => h [] g l rfl hg, ?_⟩
    intro pre f post hl hf
    exact h (g :: pre) f post (by rw [hl]; rfl) hf
  · rintro ⟨h1, h2⟩ pre f post hl hf
    cases pre with
    | nil =>
      simp only [List.nil_append, List.cons.injEq] at hl
      obtain ⟨rfl, rfl⟩ := hl
      exact h1 hf
    | cons a pre =>
      simp only [List.cons_append, List.cons.injEq] at hl
      exact h2 pre f post hl.2 hf

theorem wellOrdered_single (id : Nat) (f : Frame) : wellOrdered id [f] :=
  wellOrdered_cons.2 ⟨fun _ => rfl, wellOrdered_nil id⟩

theorem wellOrdered_append {id : Nat} {l w : List Frame} (h : wellOrdered id l) (hw : wellOrdered id w)
    (hd : dataOf id w = [] ∨ noClosing id l) : wellOrdered id (l ++ w) := by
  induction l with
  | nil => exact hw
  | cons g t ih =>
    rw [List.cons_append, wellOrdered_cons]
    rw [wellOrdered_cons] at h
    refine ⟨fun hg => ?_, ih h.2 (hd.imp_right noClosing_tail)⟩
    rcases hd with hd | hd
    · rw [dataOf_append, h.1 hg, hd]; rfl
    · rw [hd g (List.mem_cons_self ..)] at hg; cases hg

theorem noClosing_wellOrdered {id : Nat} {w : List Frame} (h : noClosing id w) : wellOrdered id w :=
  fun pre f post e hf => by rw [h f (by rw [e]; simp)] at hf; cases hf

def Frame.closes (f : Frame) (id : Nat) : Prop := Frame.isClosing id f = true ∧ dataOf id [f] = []

theorem closes_closeFrame (id : Nat) (err : Option Nat) : (closeFrame id err).closes id := by
  cases err <;> exact ⟨by simp [closeFrame, Frame.isClosing], rfl⟩

theorem closes_dropFrame (c : Chan) (id : Nat) : (dropFrame c id).closes id := by
  rcases dropFrame_eq c id with h | h <;> rw [h] <;> exact ⟨by simp [Frame.isClosing], rfl⟩

/-- The clauses of `CloseInv` and `CloseAux` for the writer of closing frames, said of its cell for
`j`, the frames it has in flight and `seen`, whether the peer has handled a closing frame for `j`:
`c1`–`c3`, `a1`, `a2` speak of the writer alone, `c4`, `c5` of `seen`. -/
structure ClC (seen : Bool) (j : Nat) (c : Cell) (out : List Frame) : Prop where
  c1 : c.closeSent = false → noClosing j out
  c2 : c.closeSent = true → c.broken = false → c.chan.closed = true ∨ c.chan.alive = false
  c3 : c.broken = false → wellOrdered j out
  a1 : c.cb ≠ none → c.broken = false → c.chan.registered = true ∨ c.chan.alive = false
  a2 : c.closeSent = true → c.chan.created = true ∨ c.ended = true
  c4 : seen = true → c.closeSent = true
  c5 : seen = true → c.broken = false → dataOf j out = []

def CloseAux (st : State) : Prop :=
  ∀ (s : Side) (id : Nat),
    let x := st.side s
    let c := x.chans id
    (x.cbs id ≠ none → x.broken id = false → c.registered = true ∨ c.alive = false) ∧
    (x.closeSent id = true → c.created = true ∨ x.ended id = true)

def CloseAll (st : State) : Prop := CloseAux st ∧ CloseInv st

theorem CloseAll_iff (st : State) : CloseAll st ↔
    ∀ s id, ClC ((st.side s.peer).closeSeen id) id ((st.side s).cell id) (st.side s).out :=
  ⟨fun ⟨h2, h1⟩ s id =>
    ⟨(h1 s id).1, (h1 s id).2.1, (h1 s id).2.2.1, (h2 s id).1, (h2 s id).2, (h1 s id).2.2.2.1, (h1 s id).2.2.2.2⟩,
   fun h => ⟨fun s id => ⟨(h s id).a1, (h s id).a2⟩,
      fun s id => ⟨(h s id).c1, (h s id).c2, (h s id).c3, (h s id).c4, (h s id).c5⟩⟩⟩

section
variable {seen : Bool} {j : Nat} {c d : Cell} {o : List Frame}

theorem ClC.cell (h : ClC seen j c o) (hcs : d.closeSent = c.closeSent)
    (hbr : d.broken = false → c.broken = false)
    (hcl : c.chan.closed = true → d.chan.closed = true) (hal : c.chan.alive = false → d.chan.alive = false)
    (hcb : d.cb ≠ none → (d.chan.registered = true ∨ d.chan.alive = false) ∨
      (c.cb ≠ none ∧ (c.chan.registered = true → d.chan.registered = true)))
    (hcr : c.chan.created = true → d.chan.created = true) (hen : c.ended = true → d.ended = true) :
    ClC seen j d o where
  c1 := fun hc => h.c1 (hcs ▸ hc)
  c2 := fun hc hb => (h.c2 (hcs ▸ hc) (hbr hb)).imp hcl hal
  c3 := fun hb => h.c3 (hbr hb)
  a1 := fun hc hb => (hcb hc).elim id fun hc' => (h.a1 hc'.1 (hbr hb)).imp hc'.2 hal
  a2 := fun hc => (h.a2 (hcs ▸ hc)).imp hcr hen
  c4 := fun hs => hcs ▸ h.c4 hs
  c5 := fun hs hb => h.c5 hs (hbr hb)

theorem ClC.closing {f : Frame} (h : ClC seen j c o) (hf : f.closes j) (hcs : d.closeSent = true)
    (hbr : d.broken = c.broken) (hcl : c.broken = false → d.chan.closed = true ∨ d.chan.alive = false)
    (hcb : d.cb ≠ none → d.chan.alive = false) (hce : d.chan.created = true ∨ d.ended = true) :
    ClC seen j d (o ++ [f]) where
  c1 := fun hc => by rw [hcs] at hc; cases hc
  c2 := fun _ hb => hcl (hbr ▸ hb)
  c3 := fun hb => wellOrdered_append (h.c3 (hbr ▸ hb)) (wellOrdered_single j f) (.inl hf.2)
  a1 := fun hc _ => .inr (hcb hc)
  a2 := fun _ => hce
  c4 := fun _ => hcs
  c5 := fun hs hb => by rw [dataOf_append, h.c5 hs (hbr ▸ hb), hf.2]; rfl

theorem ClC.quiet {w : List Frame} (h : ClC seen j c o) (hw : Quiet j w) : ClC seen j c (o ++ w) :=
  { h with
    c1 := fun hc => noClosing_append (h.c1 hc) hw.1
    c3 := fun hb => wellOrdered_append (h.c3 hb) (noClosing_wellOrdered hw.1) (.inl hw.2)
    c5 := fun hs hb => by rw [dataOf_append, h.c5 hs hb, hw.2]; rfl }

/-- a new channel object: if the id is not marked `broken` it was never used here -/
theorem ClC.create (h : ClC seen j c o) : ClC seen j c.create o := by
  cases hr : c.chan.registered with
  | true => rw [Cell.create_of_registered hr]; exact h
  | false =>
    have hc : c.create.chan = { created := true, registered := true, alive := true } :=
      createChan_of_not_registered hr
    have hb : c.create.broken = false → c.broken = false ∧ c.chan.created = false ∧ c.ended = false := by
      show (c.broken || ((c.chan.created || c.ended) && !c.chan.registered)) = false → _
      simp [hr]
    exact ⟨h.c1, fun hcs hb' => (h.a2 hcs).elim (fun e => by rw [(hb hb').2.1] at e; cases e)
        (fun e => by rw [(hb hb').2.2] at e; cases e),
      fun hb' => h.c3 (hb hb').1, fun _ _ => .inl (by rw [hc]), fun _ => .inl (by rw [hc]), h.c4,
      fun hs hb' => h.c5 hs (hb hb').1⟩

theorem ClC.step {fails : Item → Bool} {w : List Frame} (hs : CellStep fails j c w d) (hsh : c.chan.Shape)
    (h : ClC seen j c o) : ClC seen j d (o ++ w) := by
  have same : ∀ {d}, ClC seen j d o → ClC seen j d (o ++ []) := fun h => by rw [List.append_nil]; exact h
  -- a change of fields the clauses do not read
  have tweak : ∀ {c d : Cell}, ClC seen j c o → d.closeSent = c.closeSent → d.broken = c.broken →
      d.chan.closed = c.chan.closed → d.chan.alive = c.chan.alive → d.chan.registered = c.chan.registered →
      d.chan.created = c.chan.created → d.cb = c.cb → d.ended = c.ended → ClC seen j d o :=
    fun h h1 h2 h3 h4 h5 h6 h7 h8 => h.cell h1 (h2 ▸ id) (h3 ▸ id) (h4 ▸ id)
      (fun hc => .inr ⟨h7 ▸ hc, h5 ▸ id⟩) (h6 ▸ id) (h8 ▸ id)
  have hclose : ∀ {c : Cell} (io err), ClC seen j c o →
      ClC seen j (c.chanClose io) (o ++ c.closeWrites io (closeFrame j err)) := by
    intro c io err h
    unfold Cell.chanClose Cell.closeWrites
    cases he : c.chan.executing
    · cases hc : c.chan.closed
      · cases io
        · cases hr : c.chan.rclosed
          · exact same h
          · exact same (h.cell rfl id (fun _ => rfl) id (fun hc => absurd rfl hc) id fun _ => rfl)
        · exact h.closing (closes_closeFrame j err) rfl rfl (fun _ => .inl rfl) (fun hc => absurd rfl hc) (.inr rfl)
      · exact same h
    · exact same h
  cases hs with
  | create => exact same h.create
  | exec => exact same (tweak h.create rfl rfl rfl rfl rfl rfl rfl rfl)
  | remoteExec => exact h.create.quiet ⟨fun g hg => by rw [List.mem_singleton.1 hg]; rfl, rfl⟩
  | recvItem | recvEnd | waitErr | setcbDone | acceptCb | acceptQ | dropItem =>
    exact same (tweak h rfl rfl rfl rfl rfl rfl rfl rfl)
  | close io err => exact hclose (c := c) io err h
  | execFinish io err =>
    exact hclose (c := { c with chan := { c.chan with executing := false } }) io err
      (tweak h rfl rfl rfl rfl rfl rfl rfl rfl)
  | cbFailed e hcb =>
    refine h.closing ⟨by simp [Frame.isClosing], rfl⟩ rfl rfl (fun hb => ?_) (fun hc => absurd rfl hc) (.inr rfl)
    show (closedRec c.chan (some e) false).closed = true ∨ (closedRec c.chan (some e) false).alive = false
    rw [(closedRec_owner ..).2.1]
    refine (h.a1 (fun e => by rw [e] at hcb; cases hcb) hb).imp_left fun hr => ?_
    simp [closedRec, hr]
  | peerClose err so =>
    refine same (h.cell rfl id (fun hc => ?_) ((closedRec_owner ..).2.1 ▸ id) (fun hc => absurd rfl hc)
      ((closedRec_owner ..).1 ▸ id) fun _ => rfl)
    show (closedRec c.chan err so).closed = true
    unfold closedRec; split
    · simp [show c.chan.closed = true from hc]
    · exact hc
  | epilogue =>
    refine same (h.cell rfl id ?_ ((eofRec_owner _).2.1 ▸ id) (fun hc => absurd rfl hc) ((eofRec_owner _).1 ▸ id)
      fun he => ?_)
    · show c.chan.closed = true → (eofRec c.chan).closed = true
      unfold eofRec; split <;> exact id
    · show (c.ended || c.chan.registered || c.cb.isSome) = true
      simp [he]
  | send v ha hc =>
    -- a live open channel has written no closing frame yet
    have hcs : c.broken = false → c.closeSent = false := fun hb => by
      cases hcs : c.closeSent with
      | false => rfl
      | true => rcases h.c2 hcs hb with e | e <;> simp [hc, ha] at e
    exact { h with
      c1 := fun hcs' => noClosing_append (h.c1 hcs') fun g hg => by rw [List.mem_singleton.1 hg]; rfl
      c3 := fun hb => wellOrdered_append (h.c3 hb) (wellOrdered_single j _) (.inr (h.c1 (hcs hb)))
      c5 := fun hs hb => by have := h.c4 hs; rw [hcs hb] at this; cases this }
  | drop sent ha =>
    cases sent with
    | false => exact same (h.cell rfl id id (fun _ => rfl) (fun _ => .inl (.inr rfl)) id id)
    | true =>
      exact h.closing (closes_dropFrame ..) rfl rfl (fun _ => .inr rfl) (fun _ => rfl) (.inl (hsh.created_of_alive ha))
  | setcbRaised =>
    exact same ⟨h.c1, fun _ hb => (nomatch hb), fun hb => (nomatch hb), fun _ hb => (nomatch hb), h.a2, h.c4,
      fun _ hb => (nomatch hb)⟩
  | setcbReg w q ha _ _ _ hc =>
    -- a live record that is neither `closed` nor `rclosed` is still registered
    have hreg : c.chan.registered = true := by
      cases hr : c.chan.registered with
      | true => rfl
      | false => have := hsh.rclosed_of_unregistered (hsh.created_of_alive ha) ha hr; simp [this] at hc
    exact same { h with a1 := fun _ _ => .inl hreg }

theorem ClC.pop {f : Frame} {seen' : Bool} (h : ClC seen j c (f :: o))
    (hseen : seen' = true → seen = true ∨ Frame.isClosing j f = true) : ClC seen' j c o where
  c1 := fun hc => noClosing_tail (h.c1 hc)
  c2 := h.c2
  c3 := fun hb => (wellOrdered_cons.1 (h.c3 hb)).2
  a1 := h.a1
  a2 := h.a2
  c4 := fun hs => (hseen hs).elim h.c4 fun hf => by
    cases hcs : c.closeSent with
    | true => rfl
    | false => rw [h.c1 hcs f (List.mem_cons_self ..)] at hf; cases hf
  c5 := fun hs hb => (hseen hs).elim (fun hs => dataOf_tail_nil (h.c5 hs hb))
    fun hf => (wellOrdered_cons.1 (h.c3 hb)).1 hf

end

theorem handle_closeSeen (fails : Item → Bool) (x : SideSt) (w : Bool) (f : Frame) (j : Nat) :
    (handle fails x w f).closeSeen j = true → x.closeSeen j = true ∨ Frame.isClosing j f = true := by
  apply handle_cases fails x w f
    (P := fun y => y.closeSeen j = true → x.closeSeen j = true ∨ Frame.isClosing j f = true)
  case cbFail => intro _ _ _ _ _ _ hs; rw [localClose_closeSeen] at hs; exact .inl hs
  case closing =>
    intro i err so hf hs
    rw [localClose_closeSeen] at hs
    have hs : upd x.closeSeen i true j = true := hs
    rw [upd_apply] at hs; split at hs
    · next e => right; subst e; obtain rfl | ⟨_, rfl⟩ | rfl := Frame.of_closeArgs hf <;> simp [Frame.isClosing]
    · exact .inl hs
  all_goals intros; left; assumption

theorem CloseAll_init : CloseAll init := by
  refine (CloseAll_iff init).2 fun s id => ?_
  have h1 : (init.side s).out = [] := by cases s <;> rfl
  have h2 : (init.side s).closeSent id = false := by cases s <;> rfl
  have h3 : (init.side s).cbs id = none := by cases s <;> rfl
  have h4 : (init.side s.peer).closeSeen id = false := by cases s <;> rfl
  have hcs : ∀ {p : Prop}, (init.side s).closeSent id = true → p := fun h => by rw [h2] at h; cases h
  rw [h1, h4]
  exact ⟨fun _ _ hf => (nomatch hf), hcs, fun _ => wellOrdered_nil id, fun h => absurd h3 h, hcs,
    fun h => (nomatch h), fun h => (nomatch h)⟩

theorem CloseAll_step (fails : Item → Bool) (st : State) (op : Op) :
    ShapeInv st → CloseAll st → CloseAll (step fails st op).2 := by
  intro hS hP
  rw [CloseAll_iff] at hP ⊢
  have moves : ∀ {s : Side} {x' : SideSt}, Moves fails (st.side s) x' → ∀ j,
      ClC ((st.side s.peer).closeSeen j) j (x'.cell j) x'.out := fun {s x'} hm j =>
    (hm (fun j c o => c.chan.Shape ∧ ClC ((st.side s.peer).closeSeen j) j c o)
      (fun _ hs h => ⟨Chan.Shape.step hs h.1, h.2.step hs h.1⟩) (fun _ hw h => ⟨h.1, h.2.quiet hw⟩)
      (fun _ _ h => ⟨h.1, h.2.pop .inl⟩) j ⟨hS s j, hP s j⟩).2
  refine step_cases (P := fun r => ∀ s j, ClC ((r.2.side s.peer).closeSeen j) j ((r.2.side s).cell j) (r.2.side s).out)
    fails st op (fun _ _ => hP) (fun s o x' hu t j => ?_)
    (fun p f rest _ ho t j => ?_) (fun p _ t j => ?_)
  · rcases Side.self_or_peer s t with rfl | rfl
    · rw [State.side_set_same, State.side_set_peer]; exact moves hu.moves j
    · rw [State.side_set_peer, Side.peer_peer, State.side_set_same, hu.recvSame.closeSeen]
      have := hP s.peer j; rwa [Side.peer_peer] at this
  · rcases Side.self_or_peer p t with rfl | rfl
    · rw [State.side_peer_set, State.side_set_same, State.side_set_same]
      exact moves (handle_moves fails _ (p == .B) f) j
    · rw [State.side_set_same, Side.peer_peer, State.side_peer_set, State.side_set_same]
      have := hP p.peer j
      rw [ho, Side.peer_peer] at this
      exact this.pop (handle_closeSeen fails _ _ f j)
  · rcases Side.self_or_peer p t with rfl | rfl
    · rw [State.side_peer_set, State.side_set_same, State.side_set_same]
      exact moves (Moves.epilogue fails _ true) j
    · rw [State.side_set_same, Side.peer_peer, State.side_peer_set, State.side_set_same]
      have := hP p.peer j; rwa [Side.peer_peer] at this

theorem CloseInv_init : CloseInv init := CloseAll_init.2

theorem CloseAux_init : CloseAux init := CloseAll_init.1

theorem CloseInv_step (fails : Item → Bool) (st : State) (op : Op) :
    ShapeInv st → CloseAux st → CloseInv st → CloseInv (step fails st op).2 :=
  fun hS hA hC => (CloseAll_step fails st op hS ⟨hA, hC⟩).2

theorem CloseAux_step (fails : Item → Bool) (st : State) (op : Op) :
    ShapeInv st → CloseInv st → CloseAux st → CloseAux (step fails st op).2 :=
  fun hS hC hA => (CloseAll_step fails st op hS ⟨hA, hC⟩).1

theorem CloseAll_reachable {fails : Item → Bool} {st : State} (h : Reachable fails st) : CloseAll st :=
  Reachable.induction CloseAll_init (fun st op hr h => CloseAll_step fails st op (ShapeInv_reachable hr) h) st h

theorem CloseInv_reachable {fails : Item → Bool} {st : State} (h : Reachable fails st) : CloseInv st :=
  (CloseAll_reachable h).2

theorem CloseAux_reachable (fails : Item → Bool) (hShape : ∀ st, Reachable fails st → ShapeInv st) :
    ∀ st, Reachable fails st → CloseAux st :=
  fun _ hr => (CloseAll_reachable hr).1

theorem C03_data_before_eof (st : State) (p : Side) (id : Nat) :
    WireInv st → CloseInv st → (st.side p).closeSeen id = true → (st.side p.peer).broken id = false →
      (st.side p).delivered id = (st.side p.peer).sent id := by
  intro hW hC hs hb
  have h5 := (hC p.peer id).2.2.2.2
  have hw := hW p.peer id
  rw [Side.peer_peer] at h5 hw
  rw [hw, h5 hs hb, List.append_nil]

theorem C03_no_send_after_close (fails : Item → Bool) (st : State) (s : Side) (id : Nat) (v : Item) :
    CloseInv st → (st.side s).closeSent id = true → (st.side s).broken id = false →
      (step fails st (.send s id v)).1 = .notEnabled ∨ (step fails st (.send s id v)).1 = .osError := by
  intro hC hcs hb
  exact (step_send_refused v (((hC s id).2.1 hcs hb).imp_right .inl)).symm

/-- case split on `j = id` for goals about `upd … id … j` -/
local macro "upd_cases" j:ident id:ident : tactic =>
  `(tactic| (by_cases hj : $j = $id
             · subst hj; simp [nlo_chans, nlo_cbs, upd_same]
             · simp [nlo_chans, nlo_cbs, upd_ne, hj]))

end ExecnetVerif.Net
