/-
G6 `FinInv`: once the receiver of a side has finished (connection loss `cut`, GATEWAY_TERMINATE, or a
callback failing after the IO was closed), its IO is closed, nothing is registered any more and every
channel object that is still alive is `rclosed`; hence C04: operations are refused or do not block.
-/
import ExecnetVerif.Proofs.Net.Shape
namespace ExecnetVerif.Net

def FinSide (x : SideSt) : Prop :=
  x.finished = true →
    x.ioOpen = false ∧ ∀ id, (x.chans id).registered = false ∧ x.cbs id = none ∧
      ((x.chans id).alive = true → (x.chans id).rclosed = true)

theorem FinInv_iff (st : State) : FinInv st ↔ ∀ p, FinSide (st.side p) := Iff.rfl

theorem FinSide_of_not_finished {x : SideSt} (h : x.finished = false) : FinSide x := by
  intro h'; simp [h] at h'

theorem FinInv_init : FinInv init := by
  intro p; cases p <;> intro _ h <;> exact absurd h (by decide)

/-- the part of the record shape the epilogue needs: a live record that is not registered has been
closed from remote -/
def ClosedIfLive (x : SideSt) : Prop :=
  ∀ id, (x.chans id).alive = true → (x.chans id).registered = false → (x.chans id).rclosed = true

theorem ShapeInv.closedIfLive {st : State} (hS : ShapeInv st) (p : Side) : ClosedIfLive (st.side p) :=
  fun id ha hr =>
    have h : ((st.side p).chans id).Shape := hS p id
    h.rclosed_of_unregistered (h.created_of_alive ha) ha hr

theorem FinSide_epilogue {x : SideSt} (isCut : Bool) (hS : ClosedIfLive x) : FinSide (epilogue x isCut) := by
  rw [epilogue_eq]
  refine fun _ => ⟨rfl, fun id => ?_⟩
  simp only [eofRec]; split
  · exact ⟨rfl, trivial, fun _ => rfl⟩
  · next hr => exact ⟨by simpa using hr, trivial, fun ha => hS id ha (by simpa using hr)⟩

theorem FinSide_setChan {x x' : SideSt} {id : Nat} {c' : Chan} (h : FinSide x)
    (hfin : x'.finished = x.finished) (hio : x'.ioOpen = x.ioOpen) (hcbs : ∀ k, x.cbs k = none → x'.cbs k = none)
    (hch : x'.chans = upd x.chans id c')
    (hc : (x.chans id).registered = false → ((x.chans id).alive = true → (x.chans id).rclosed = true) →
      c'.registered = false ∧ (c'.alive = true → c'.rclosed = true)) : FinSide x' := by
  intro hf
  obtain ⟨h1, h2⟩ := h (hfin ▸ hf)
  refine ⟨hio ▸ h1, ?_⟩
  rw [hch]
  have := hc (h2 id).1 (h2 id).2.2
  exact forall_upd (P := fun k (c : Chan) => c.registered = false ∧ x'.cbs k = none ∧ (c.alive = true → c.rclosed = true))
    (fun k => ⟨(h2 k).1, hcbs k (h2 k).2.1, (h2 k).2.2⟩) ⟨this.1, hcbs id (h2 id).2.1, this.2⟩

theorem FinSide_chanClose {x : SideSt} (id : Nat) (err : Option Nat) (h : FinSide x) :
    FinSide (chanClose x id err).2 := by
  rw [chanClose_snd]; split
  · exact h
  · refine FinSide_setChan h rfl rfl (fun k hk => ?_) rfl fun _ _ => ⟨rfl, fun _ => rfl⟩
    show upd x.cbs id none k = none
    rw [upd_apply]; split
    · rfl
    · exact hk

theorem FinSide_handle (fails : Item → Bool) {x : SideSt} (w : Bool) (f : Frame) (hf : x.finished = false)
    (hS : ClosedIfLive x) : FinSide (handle fails x w f) := by
  apply handle_cases fails x w f (P := FinSide)
  case cbEnd =>
    -- a failing callback after the IO was closed: the epilogue runs on the state in which the
    -- channels contained in the item have been registered
    intro id v _ _ _ _
    refine FinSide_epilogue false fun j ha hr => ?_
    have e : (acceptCb x id v).chans j = (registerAll x v.chans).chans j := rfl
    rw [e, registerAll_chans] at ha hr ⊢
    split at hr
    · rw [createChan_registered] at hr; cases hr
    · next hj => rw [if_neg hj] at ha ⊢; exact hS j ha hr
  case terminate => exact fun _ => FinSide_epilogue false hS
  case cbFail => exact fun _ _ _ _ _ _ => FinSide_of_not_finished (by rw [localClose_eq]; exact hf)
  case closing => exact fun _ _ _ _ => FinSide_of_not_finished (by rw [localClose_eq]; exact hf)
  all_goals intros; exact FinSide_of_not_finished hf

theorem FinSide_user {fails : Item → Bool} {x x' : SideSt} {o : Out} (h : UserStep fails x o x') :
    FinSide x → FinSide x' := by
  cases h with
  | newchannel hf | remoteExecFail hf | remoteExec hf => exact fun _ => FinSide_of_not_finished hf
  | send => exact id
  | close id err => exact FinSide_chanClose id err
  | execFinish id err =>
    exact fun h => FinSide_chanClose id err (FinSide_setChan h rfl rfl (fun _ hk => hk) rfl fun h1 h2 => ⟨h1, h2⟩)
  | recvItem | recvErr | recvEof | waitErr | setcbRaised | setcbDone =>
    exact fun h => FinSide_setChan h rfl rfl (fun _ hk => hk) rfl fun h1 h2 => ⟨h1, h2⟩
  | dropQuiet | dropFrame =>
    exact fun h => FinSide_setChan h rfl rfl (fun _ hk => hk) rfl fun _ _ => ⟨rfl, by simp⟩
  | setcbReg id w q ha _ _ _ hc =>
    -- a finished side has no live record that is not `rclosed`, so no callback is registered any more
    intro h hf
    have := ((h hf).2 id).2.2 ha
    simp [this] at hc

theorem FinInv_step (fails : Item → Bool) (st : State) (op : Op) :
    ShapeInv st → FinInv st → FinInv (step fails st op).2 := fun hS hF p =>
  rel_step (R := fun x x' => ClosedIfLive x → FinSide x → FinSide x') fails st op (fun _ _ h => h)
    (fun _ _ _ hu _ => FinSide_user hu) (fun _ w f hf hJ _ => FinSide_handle fails w f hf hJ)
    (fun _ _ hJ _ => FinSide_epilogue true hJ)
    (fun _ _ e _ _ h hf => ⟨by cases e <;> simp [peerAfter, (h hf).1], (h hf).2⟩) p (hS.closedIfLive p) (hF p)

theorem FinInv_reachable {fails : Item → Bool} {st : State} (h : Reachable fails st) : FinInv st :=
  Reachable.induction FinInv_init (fun st op hr h => FinInv_step fails st op (ShapeInv_reachable hr) h) st h

theorem C04_refuse (fails : Item → Bool) (st : State) (p : Side) :
    FinInv st → (st.side p).finished = true →
      (step fails st (.newchannel p)).1 = .osError ∧
      (p = .A → (step fails st .remoteExec).1 = .osError) ∧
      (∀ id v, (step fails st (.send p id v)).1 = .osError ∨ (step fails st (.send p id v)).1 = .notEnabled) := by
  intro hF hf
  have hio := (hF p hf).1
  refine ⟨by simp [step, hf], ?_, ?_⟩
  · rintro rfl
    have : st.a.finished = true := hf
    simp [step, this]
  · exact fun id v => step_send_refused v (.inr (.inr hio))

theorem C04_no_block (fails : Item → Bool) (st : State) (p : Side) (id : Nat) :
    ShapeInv st → FinInv st → (st.side p).finished = true → ((st.side p).chans id).alive = true →
      (step fails st (.receive p id)).1 ≠ .wouldBlock ∧ (step fails st (.waitclose p id)).1 ≠ .wouldBlock := by
  intro hS hF hf ha
  have hrc := ((hF p hf).2 id).2.2 ha
  have hq := Chan.Shape.queue (hS p id)
  constructor
  · -- a live record on a finished side is `rclosed` (G6), so by its shape the queue is not `[]`: its head
    -- is an item or an ENDMARKER, and neither blocks
    simp only [step, ha]
    cases hqq : ((st.side p).chans id).queue with
    | none => simp
    | some q =>
      cases q with
      | nil => have := QShape.eq_false_of_nil (hq [] hqq); rw [hrc] at this; cases this
      | cons a q =>
        cases a with
        | item v => simp
        | endmarker =>
          simp only [Bool.not_true, Bool.false_eq_true, if_false]
          split <;> simp
  · exact step_waitclose_of_rclosed ha hrc

theorem C04_eof_after_cut (fails : Item → Bool) (st : State) (p : Side) (id : Nat) :
    (st.side p).gwerr = true → ((st.side p).chans id).alive = true →
    ((st.side p).chans id).rclosed = true → ((st.side p).chans id).rerrs = [] →
      (step fails st (.waitclose p id)).1 = .eofError := by
  intro hg ha hr he
  simp [step, ha, hr, he, hg]

theorem gwerr_of_cut (fails : Item → Bool) (st : State) (p : Side) :
    (st.side p).finished = false → ((step fails st (.cut p)).2.side p).gwerr = true := by
  intro hf
  rw [step_cut _ _ _ hf]; simp [recvMove]

theorem finished_of_cut (fails : Item → Bool) (st : State) (p : Side) :
    (st.side p).finished = false → ((step fails st (.cut p)).2.side p).finished = true := by
  intro hf
  rw [step_cut _ _ _ hf]; simp [recvMove]

theorem finished_mono (fails : Item → Bool) (st : State) (op : Op) (p : Side) :
    (st.side p).finished = true → ((step fails st op).2.side p).finished = true :=
  rel_step (R := fun x x' => x.finished = true → x'.finished = true) fails st op (fun _ h => h)
    (fun _ _ _ hu h => hu.recvSame.finished ▸ h) (fun _ _ _ hf h => by simp [hf] at h)
    (fun _ hf h => by simp [hf] at h) (fun _ _ _ _ h => h) p

end ExecnetVerif.Net
