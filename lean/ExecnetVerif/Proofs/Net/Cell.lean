/-
What a side remembers about one channel id is its `Cell`; every operation moves each cell along
`CellStep`s, which also say which frames (about their own id only) they write.  An invariant that speaks
of one id at a time is a predicate on `Cell` (`cell_inv`), or on the cell and the frames the side has in
flight (`Moves`), and holds in every reachable state if every `CellStep` preserves it.
-/
import ExecnetVerif.Proofs.Net.Step
namespace ExecnetVerif.Net

structure Cell where
  chan : Chan
  cb : Option Bool
  sent : List Item
  got : List Item
  kept : List Item
  delivered : List Item
  cbLog : List CbEvent
  dropped : Bool
  broken : Bool
  cbWants : Option Bool
  ended : Bool
  closeSeen : Bool
  closeSent : Bool

def SideSt.cell (x : SideSt) (i : Nat) : Cell :=
  { chan := x.chans i, cb := x.cbs i, sent := x.sent i, got := x.got i, kept := x.kept i,
    delivered := x.delivered i, cbLog := x.cbLog i, dropped := x.dropped i, broken := x.broken i,
    cbWants := x.cbWants i, ended := x.ended i, closeSeen := x.closeSeen i, closeSent := x.closeSent i }

theorem cell_of_upd {x y : SideSt} {id : Nat} {c : Cell} (h : ∀ i, y.cell i = if i = id then c else x.cell i) :
    y.cell = upd x.cell id c := funext h

/-- `createAt` -/
def Cell.create (c : Cell) : Cell :=
  { c with chan := createChan c.chan,
           broken := c.broken || ((c.chan.created || c.ended) && !c.chan.registered) }

/-- `_local_close` -/
def Cell.localClose (c : Cell) (err : Option Nat) (so : Bool) : Cell :=
  { c with chan := closedRec c.chan err so, cb := none, cbLog := endLog c.cb c.cbLog, ended := true }

/-- `Channel.close` -/
def Cell.chanClose (c : Cell) (io : Bool) : Cell :=
  if c.chan.executing || c.chan.closed || (!io && !c.chan.rclosed) then c
  else { c with chan := userClosedRec c.chan, cb := none, cbLog := endLog c.cb c.cbLog, ended := true,
                closeSent := io || c.closeSent }

/-- what `Channel.close` writes.  The condition differs from that of `Cell.chanClose` on purpose: with the IO
closed a record that is already `rclosed` is closed silently; otherwise the send fails and nothing changes. -/
def Cell.closeWrites (c : Cell) (io : Bool) (fr : Frame) : List Frame :=
  if c.chan.executing || c.chan.closed || !io then [] else [fr]

/-- the receiver epilogue -/
def Cell.epilogue (c : Cell) : Cell :=
  { c with chan := eofRec c.chan, cb := none, ended := c.ended || c.chan.registered || c.cb.isSome,
           cbLog := endLog c.cb c.cbLog }

/-- `setcallback` found the queue `q` (before the verdict) -/
def Cell.setcb (fails : Item → Bool) (c : Cell) (w : Bool) (q : List QItem) : Cell :=
  { c with chan := { c.chan with queue := none }, cbWants := some w, got := c.got ++ (drain fails q).1,
           cbLog := c.cbLog ++ (drain fails q).1.map .item ++
             (if (drain fails q).2.2 && w then [.endmarker] else []) }

def Cell.acceptCb (c : Cell) (v : Item) : Cell :=
  { c with delivered := c.delivered ++ [v], cbLog := c.cbLog ++ [.item v], got := c.got ++ [v],
           kept := c.kept ++ [v] }

def Cell.acceptQ (c : Cell) (v : Item) : Cell :=
  { c with chan := { c.chan with queue := c.chan.queue.map (· ++ [.item v]) },
           delivered := c.delivered ++ [v], kept := c.kept ++ [v] }

def Cell.dropItem (c : Cell) (v : Item) : Cell :=
  { c with delivered := c.delivered ++ [v], dropped := true }

def Cell.exec (c : Cell) : Cell :=
  { c.create with chan := { createChan c.chan with executing := true } }

theorem Cell.create_of_registered {c : Cell} (h : c.chan.registered = true) : c.create = c := by
  cases c; simp_all [Cell.create, createChan_of_registered]

theorem createAt_cell (x : SideSt) (id : Nat) : (createAt x id).cell = upd x.cell id (x.cell id).create :=
  cell_of_upd fun i => by by_cases h : i = id <;> simp [SideSt.cell, upd_apply, h, Cell.create]

theorem registerAll_cell (x : SideSt) (ids : List Nat) (i : Nat) :
    (registerAll x ids).cell i = if i ∈ ids then (x.cell i).create else x.cell i := by
  induction ids generalizing x with
  | nil => rfl
  | cons k t ih =>
    rw [registerAll_cons, ih, createAt_cell, upd_apply]
    by_cases hk : i = k
    · subst hk
      have hc : (x.cell i).create.create = (x.cell i).create :=
        Cell.create_of_registered (createChan_registered _)
      simp [hc]
    · simp [hk]

theorem localClose_cell (x : SideSt) (id : Nat) (err : Option Nat) (so : Bool) :
    (localClose x id err so).cell = upd x.cell id ((x.cell id).localClose err so) := by
  rw [localClose_eq]
  exact cell_of_upd fun i => by by_cases h : i = id <;> simp [SideSt.cell, upd_apply, h, Cell.localClose]

theorem chanClose_cell (x : SideSt) (id : Nat) (err : Option Nat) :
    (chanClose x id err).2.cell = upd x.cell id ((x.cell id).chanClose x.ioOpen) := by
  rw [chanClose_snd]
  show _ = upd x.cell id (if (x.chans id).executing || (x.chans id).closed || (!x.ioOpen && !(x.chans id).rclosed)
    then _ else _)
  split
  · exact (upd_eq_self _ _).symm
  · exact cell_of_upd fun i => by
      by_cases h : i = id <;> cases hio : x.ioOpen <;> simp [SideSt.cell, upd_apply, h, closedSide, hio]

theorem chanClose_out_cell (x : SideSt) (id : Nat) (err : Option Nat) :
    (chanClose x id err).2.out = x.out ++ (x.cell id).closeWrites x.ioOpen (closeFrame id err) := by
  rw [chanClose_snd]; unfold Cell.closeWrites
  cases hio : x.ioOpen
  · -- IO closed: nothing is written, whether the record is closed silently or the call refused
    split <;> simp [closedSide, hio]
  · -- IO open: the two conditions are the same
    simp only [Bool.not_true, Bool.false_and, Bool.or_false, SideSt.cell]
    split <;> simp [closedSide, hio]

theorem acceptCb_cell (x : SideSt) (id : Nat) (v : Item) : (acceptCb x id v).cell =
    upd (registerAll x v.chans).cell id (((registerAll x v.chans).cell id).acceptCb v) :=
  cell_of_upd fun i => by by_cases h : i = id <;> simp [SideSt.cell, upd_apply, h, acceptCb, Cell.acceptCb]

theorem acceptQ_cell (x : SideSt) (id : Nat) (v : Item) : (acceptQ x id v).cell =
    upd (registerAll x v.chans).cell id (((registerAll x v.chans).cell id).acceptQ v) :=
  cell_of_upd fun i => by by_cases h : i = id <;> simp [SideSt.cell, upd_apply, h, acceptQ, Cell.acceptQ]

theorem dropItem_cell (x : SideSt) (id : Nat) (v : Item) :
    (dropItem x id v).cell = upd x.cell id ((x.cell id).dropItem v) :=
  cell_of_upd fun i => by by_cases h : i = id <;> simp [SideSt.cell, upd_apply, h, dropItem, Cell.dropItem]

theorem setChan_cell (x : SideSt) (id : Nat) (c : Chan) : ({ x with chans := upd x.chans id c } : SideSt).cell =
    upd x.cell id { x.cell id with chan := c } :=
  cell_of_upd fun i => by by_cases h : i = id <;> simp [SideSt.cell, upd_apply, h]

theorem writeCloseErr_cell (x : SideSt) (id e : Nat) :
    (writeCloseErr x id e).cell = upd x.cell id { x.cell id with closeSent := true } :=
  cell_of_upd fun i => by by_cases h : i = id <;> simp [SideSt.cell, upd_apply, h, writeCloseErr]

theorem closeSeen_cell (x : SideSt) (id : Nat) : ({ x with closeSeen := upd x.closeSeen id true } : SideSt).cell =
    upd x.cell id { x.cell id with closeSeen := true } :=
  cell_of_upd fun i => by by_cases h : i = id <;> simp [SideSt.cell, upd_apply, h]

theorem execAt_cell (x : SideSt) (id : Nat) : (execAt x id).cell = upd x.cell id (x.cell id).exec :=
  cell_of_upd fun i => by by_cases h : i = id <;> simp [SideSt.cell, upd_apply, h, execAt, Cell.exec, Cell.create]

/-- What one call of the user, or one move of the receiver, does to the cell of channel `id`, and
the frames it writes.  Of the guards of the model's branch a constructor carries those about the cell
that some group reads; a group that needs another adds it here and hands it over in `UserStep.moves` /
`handle_moves`.  `recvEnd`: `receive`
finds an ENDMARKER (and pops a remote error, or not); `drop sent`: the last reference goes, a closing
frame being written or not; `cbFailed`: the callback that took the item failed, its CLOSE_ERROR is
written and the channel closed; `peerClose`: a closing frame of the peer is handled; `execFinish`
is one step, not `executing` cleared and then `close`: `close` asks for a live channel object, which
an executing one is only by the shape invariant.  So a `.step` lemma proves `P d → P (d.chanClose io)` once
for an arbitrary cell `d` and uses it for `close` and, at the cell with `executing` cleared, for `execFinish`. -/
inductive CellStep (fails : Item → Bool) (id : Nat) : Cell → List Frame → Cell → Prop
  | create (c : Cell) : CellStep fails id c [] c.create
  | remoteExec (c : Cell) : CellStep fails id c [.exec id] c.create
  | send (c : Cell) (v : Item) : c.chan.alive = true → c.chan.closed = false →
      CellStep fails id c [.data id v] { c with sent := c.sent ++ [v] }
  | close (c : Cell) (io : Bool) (err : Option Nat) : c.chan.alive = true →
      CellStep fails id c (c.closeWrites io (closeFrame id err)) (c.chanClose io)
  | recvItem (c : Cell) (v : Item) (q : List QItem) : c.chan.alive = true → c.chan.queue = some (.item v :: q) →
      CellStep fails id c [] { c with chan := { c.chan with queue := some q }, got := c.got ++ [v] }
  | recvEnd (c : Cell) (q : List QItem) (es : List Nat) : c.chan.alive = true →
      c.chan.queue = some (.endmarker :: q) →
      CellStep fails id c [] { c with chan := { c.chan with queue := some (q ++ [.endmarker]), rerrs := es } }
  | waitErr (c : Cell) (es : List Nat) : c.chan.alive = true →
      CellStep fails id c [] { c with chan := { c.chan with rerrs := es } }
  | setcbRaised (c : Cell) (w : Bool) (q : List QItem) : c.chan.alive = true → c.chan.queue = some q →
      (drain fails q).2.1 = true → CellStep fails id c [] { c.setcb fails w q with broken := true }
  | setcbDone (c : Cell) (w : Bool) (q : List QItem) : c.chan.alive = true → c.chan.queue = some q →
      (drain fails q).2.1 = false → ((drain fails q).2.2 = true ∨ (c.chan.closed || c.chan.rclosed) = true) →
      CellStep fails id c [] (c.setcb fails w q)
  | setcbReg (c : Cell) (w : Bool) (q : List QItem) : c.chan.alive = true → c.chan.queue = some q →
      (drain fails q).2.1 = false → (drain fails q).2.2 = false → (c.chan.closed || c.chan.rclosed) = false →
      CellStep fails id c [] { c.setcb fails w q with cb := some w }
  | drop (c : Cell) (sent : Bool) : c.chan.alive = true → c.chan.executing = false →
      CellStep fails id c (if sent then [dropFrame c.chan id] else [])
        { c with chan := { c.chan with alive := false, registered := false }, closeSent := sent || c.closeSent }
  | execFinish (c : Cell) (io : Bool) (err : Option Nat) : c.chan.executing = true →
      CellStep fails id c
        (Cell.closeWrites { c with chan := { c.chan with executing := false } } io (closeFrame id err))
        (Cell.chanClose { c with chan := { c.chan with executing := false } } io)
  | acceptCb (c : Cell) (v : Item) : c.cb.isSome = true → CellStep fails id c [] (c.acceptCb v)
  | acceptQ (c : Cell) (v : Item) : c.cb = none → c.chan.registered = true → c.chan.queue.isSome = true →
      CellStep fails id c [] (c.acceptQ v)
  | dropItem (c : Cell) (v : Item) : CellStep fails id c [] (c.dropItem v)
  | cbFailed (c : Cell) (e : Nat) : c.cb.isSome = true →
      CellStep fails id c [.closeErr id e] (Cell.localClose { c with closeSent := true } (some e) false)
  | peerClose (c : Cell) (err : Option Nat) (so : Bool) :
      CellStep fails id c [] (Cell.localClose { c with closeSeen := true } err so)
  | epilogue (c : Cell) : CellStep fails id c [] c.epilogue
  | exec (c : Cell) : CellStep fails id c [] c.exec

def Quiet (i : Nat) (w : List Frame) : Prop := noClosing i w ∧ dataOf i w = []

theorem Quiet.nil (i : Nat) : Quiet i [] := ⟨fun _ h => (nomatch h), rfl⟩

theorem CellStep.quiet {fails : Item → Bool} {i j : Nat} {c c' : Cell} {w : List Frame}
    (h : CellStep fails j c w c') (hij : j ≠ i) : Quiet i w := by
  have hb : (j == i) = false := by simpa using hij
  have one : ∀ f : Frame, Frame.isClosing i f = false → dataOf i [f] = [] → Quiet i [f] :=
    fun f h1 h2 => And.intro (fun g hg => by rw [List.mem_singleton.1 hg]; exact h1) h2
  have hclose : ∀ (d : Cell) io err, Quiet i (d.closeWrites io (closeFrame j err)) := by
    intro d io err; unfold Cell.closeWrites; split
    · exact .nil i
    · exact one _ (by cases err <;> exact hb) (dataOf_closeFrame ..)
  cases h with
  | remoteExec => exact one _ rfl rfl
  | send v => exact one _ rfl (by simp [hij])
  | close io err => exact hclose ..
  | execFinish io err => exact hclose ..
  | drop sent =>
    cases sent
    · exact .nil i
    · exact one _ (by rcases dropFrame_eq c.chan j with h | h <;> rw [h] <;> exact hb) (dataOf_dropFrame ..)
  | cbFailed e => exact one _ hb rfl
  | _ => exact .nil i

/-- The cell of every id, together with the frames the side has in flight, moves from `x` to `y`:
what is preserved by every cell step of the id itself (which appends what it writes), by frames that
are not about the id being appended, and by the head frame being taken away, carries over. -/
def Moves (fails : Item → Bool) (x y : SideSt) : Prop :=
  ∀ P : Nat → Cell → List Frame → Prop,
    (∀ {i c w c'} o, CellStep fails i c w c' → P i c o → P i c' (o ++ w)) →
    (∀ {i c w} o, Quiet i w → P i c o → P i c (o ++ w)) →
    (∀ {i c} f o, P i c (f :: o) → P i c o) →
    ∀ i, P i (x.cell i) x.out → P i (y.cell i) y.out

theorem Moves.refl (fails : Item → Bool) (x : SideSt) : Moves fails x x := fun _ _ _ _ _ h => h

theorem Moves.trans {fails : Item → Bool} {x y z : SideSt} (h1 : Moves fails x y) (h2 : Moves fails y z) :
    Moves fails x z := fun P hs hq hp i h => h2 P hs hq hp i (h1 P hs hq hp i h)

theorem Moves.upd {fails : Item → Bool} {x y : SideSt} {id : Nat} {c : Cell} {w : List Frame}
    (h : y.cell = upd x.cell id c) (hs : CellStep fails id (x.cell id) w c)
    (ho : y.out = x.out ++ w := by simp) : Moves fails x y := by
  intro P hstep hquiet _ i hi
  rw [h, ho, upd_apply]; split
  · next e => subst e; exact hstep _ hs hi
  · next e => exact hquiet _ (hs.quiet (Ne.symm e)) hi

theorem Moves.registerAll (fails : Item → Bool) (x : SideSt) (ids : List Nat) : Moves fails x (registerAll x ids) := by
  intro P hstep _ _ i hi
  rw [registerAll_cell, registerAll_out]; split
  · exact List.append_nil x.out ▸ hstep _ (.create _) hi
  · exact hi

theorem Moves.epilogue (fails : Item → Bool) (x : SideSt) (b : Bool) : Moves fails x (epilogue x b) :=
  fun _ hstep _ _ _ hi => List.append_nil x.out ▸ hstep _ (.epilogue _) hi

theorem UserStep.moves {fails : Item → Bool} {x x' : SideSt} {o : Out} (hu : UserStep fails x o x') :
    Moves fails x x' := by
  cases hu with
  | newchannel => exact .upd (createAt_cell x _) (.create _)
  | remoteExec => exact .upd (createAt_cell x _) (.remoteExec _)
  | remoteExecFail => exact fun _ _ _ _ _ h => h  -- `count` is in no cell
  | send id v ha _ hc =>
    exact .upd (cell_of_upd fun i => by
      by_cases h : i = id <;> simp [SideSt.cell, upd_apply, h]) (.send _ v ha hc)
  | close id err ha => exact .upd (chanClose_cell x id err) (.close _ _ err ha) (chanClose_out_cell ..)
  | recvItem id v q ha hq =>
    exact .upd (cell_of_upd fun i => by
      by_cases h : i = id <;> simp [SideSt.cell, upd_apply, h]) (.recvItem _ v q ha hq)
  | recvErr id q e es ha hq => exact .upd (setChan_cell x id _) (.recvEnd _ q es ha hq)
  | recvEof id q ha hq => exact .upd (setChan_cell x id _) (.recvEnd _ q (x.chans id).rerrs ha hq)
  | waitErr id e es ha => exact .upd (setChan_cell x id _) (.waitErr _ es ha)
  | setcbRaised id w q ha hq hr =>
    exact .upd (cell_of_upd fun i => by
      by_cases h : i = id <;> simp [SideSt.cell, upd_apply, h, setcbSide, Cell.setcb])
      (.setcbRaised _ w q ha hq hr) (by simp [setcbSide])
  | setcbDone id w q ha hq hr he =>
    exact .upd (cell_of_upd fun i => by
      by_cases h : i = id <;> simp [SideSt.cell, upd_apply, h, setcbSide, Cell.setcb])
      (.setcbDone _ w q ha hq hr he) (by simp [setcbSide])
  | setcbReg id w q ha hq hr he hc =>
    exact .upd (cell_of_upd fun i => by
      by_cases h : i = id <;> simp [SideSt.cell, upd_apply, h, setcbSide, Cell.setcb])
      (.setcbReg _ w q ha hq hr he hc) (by simp [setcbSide])
  | dropQuiet id ha he => exact .upd (setChan_cell x id _) (.drop _ false ha he)
  | dropFrame id ha he =>
    exact .upd (cell_of_upd fun i => by
      by_cases h : i = id <;> simp [SideSt.cell, upd_apply, h]) (.drop _ true ha he) rfl
  | execFinish id err he =>
    refine .upd ?_ (.execFinish _ x.ioOpen err he) ?_
    · rw [chanClose_cell, setChan_cell, upd_upd, upd_same]; rfl
    · rw [chanClose_out_cell, setChan_cell, upd_same]; rfl

theorem handle_moves (fails : Item → Bool) (x : SideSt) (w : Bool) (f : Frame) :
    Moves fails x (handle fails x w f) := by
  have hcb : ∀ id v, (x.cbs id).isSome = true → Moves fails x (acceptCb x id v) := fun id v hc =>
    (Moves.registerAll fails x v.chans).trans
      (.upd (acceptCb_cell x id v) (.acceptCb _ v (by simpa [SideSt.cell] using hc)) (by simp [acceptCb]))
  apply handle_cases fails x w f (P := Moves fails x)
  case cbFail =>
    refine fun id v _ hc _ _ => (hcb id v hc).trans
      (.upd (id := id) ?_ (.cbFailed _ v.val ?_) (by simp [localClose_eq, writeCloseErr]))
    · rw [localClose_cell, writeCloseErr_cell, upd_upd, upd_same]
    · simpa [SideSt.cell, acceptCb] using hc
  case cbEnd => exact fun id v _ hc _ _ => (hcb id v hc).trans (.epilogue fails _ false)
  case cbOk => exact fun id v _ hc _ => hcb id v hc
  case queued =>
    exact fun id v _ hc hr hq => (Moves.registerAll fails x v.chans).trans (.upd (acceptQ_cell x id v)
      (.acceptQ _ v (by simpa [SideSt.cell] using hc)
        (by simpa [SideSt.cell, registerAll_chans_of_registered _ hr] using hr)
        (by simpa [SideSt.cell, registerAll_chans_of_registered _ hr] using hq)) (by simp [acceptQ]))
  case dropped => exact fun id v _ hc _ => .upd (dropItem_cell x id v) (.dropItem _ v) (by simp [dropItem])
  case closing =>
    refine fun id err so _ => .upd (id := id) ?_ (.peerClose _ err so) (by simp [localClose_eq])
    rw [localClose_cell, closeSeen_cell, upd_upd, upd_same]
  case exec => exact fun id _ _ => .upd (execAt_cell x id) (.exec _) (by simp [execAt])
  case noExec => exact fun _ _ _ => .refl fails x
  case terminate => exact fun _ => .epilogue fails x false

theorem Moves.peerAfter (fails : Item → Bool) {y : SideSt} {rest : List Frame} (e : Bool) (h : rest <:+ y.out) :
    Moves fails y (peerAfter y rest e) := by
  intro P _ _ hpop i hi
  obtain ⟨pre, hpre⟩ := h
  show P i (y.cell i) rest
  rw [← hpre] at hi
  clear hpre
  induction pre with
  | nil => exact hi
  | cons f t ih => exact ih (hpop f _ hi)

theorem step_moves (fails : Item → Bool) (st : State) (op : Op) (t : Side) :
    Moves fails (st.side t) ((step fails st op).2.side t) :=
  rel_step (R := Moves fails) fails st op (.refl fails) (fun _ _ _ hu => hu.moves)
    (fun x w f _ => handle_moves fails x w f) (fun x _ => .epilogue fails x true)
    (fun _ _ e h => .peerAfter fails e h) t

/-- `J`: an invariant of the cell proved before `P`, which the preservation of `P` may use (the shape; `True` if none) -/
theorem cell_inv {fails : Item → Bool} {J P : Cell → Prop}
    (hJ : ∀ {i c w c'}, CellStep fails i c w c' → J c → J c')
    (hP : ∀ {i c w c'}, CellStep fails i c w c' → J c → P c → P c') (st : State) (op : Op) (s : Side) (i : Nat)
    (hj : J ((st.side s).cell i)) (hp : P ((st.side s).cell i)) : P (((step fails st op).2.side s).cell i) :=
  (step_moves fails st op s (fun _ c _ => J c ∧ P c) (fun _ hs h => ⟨hJ hs h.1, hP hs h.1 h.2⟩)
    (fun _ _ h => h) (fun _ _ h => h) i ⟨hj, hp⟩).2

end ExecnetVerif.Net
