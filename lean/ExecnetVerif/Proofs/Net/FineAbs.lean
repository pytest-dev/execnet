/-
All in-hand ENDMARKERs put back (`hand.foldl putBack st`, i.e. `FState.abs`): what cannot see it, how a coarse step
commutes with it, how one key is pulled out of it.
-/
import ExecnetVerif.Proofs.Net.FineComm
namespace ExecnetVerif.Net.Fine
open ExecnetVerif.Net

theorem foldl_putBack_blind {α : Type} (Q : SideSt → α) (hQ : ∀ x id, Q (pb x id) = Q x) (hand : List (Side × Nat))
    (st : State) (s : Side) : Q ((hand.foldl putBack st).side s) = Q (st.side s) :=
  List.foldlRecOn hand putBack (motive := fun st' => Q (st'.side s) = Q (st.side s)) rfl
    (fun _ h _ _ => (putBack_blind Q hQ ..).trans h)

theorem HandOK.putBack {st : State} {k : Side × Nat} (h : HandOK ((st.side k.1).chans k.2)) (k' : Side × Nat) :
    HandOK (((Net.putBack st k').side k.1).chans k.2) :=
  .of_set (s := k'.1) (id := k'.2) rfl (fun _ => h) (fun e => by subst e; exact h.of_eq rfl rfl (.inr rfl))

@[simp] theorem foldl_putBack_created (hand : List (Side × Nat)) (st : State) (s : Side) (i : Nat) :
    (((hand.foldl putBack st).side s).chans i).created = ((st.side s).chans i).created :=
  foldl_putBack_blind (fun x => (x.chans i).created) (fun x id => pb_chans_created x id i) hand st s

theorem putBack_queue (st : State) (k : Side × Nat) (s : Side) (i : Nat) :
    (((putBack st k).side s).chans i).queue =
      if (s, i) = k then pushEnd ((st.side s).chans i).queue else ((st.side s).chans i).queue := by
  obtain ⟨p, id⟩ := k
  rw [putBack_side]
  by_cases hs : s = p
  · subst hs
    simp only [if_true, pb_chans_apply]
    by_cases hi : i = id
    · subst hi; simp
    · simp [hi]
  · simp [hs]

theorem putBack_queue_ne_nil (st : State) (k : Side × Nat) (s : Side) (i : Nat)
    (h : ((st.side s).chans i).queue ≠ some []) : (((putBack st k).side s).chans i).queue ≠ some [] := by
  rw [putBack_queue]
  split
  · cases ((st.side s).chans i).queue <;> simp [pushEnd]
  · exact h

theorem Comm.putBack {st : State} {k : Side × Nat} {op : Op} (h : Comm st k op) (k' : Side × Nat) :
    Comm (putBack st k') k op := by
  cases op with
  | deliver p =>
    intro hp
    rw [putBack_blind (fun x => (x.chans k.2).registered) (fun x id => pb_chans_registered x id k.2),
      putBack_blind (·.out) (fun _ _ => rfl)]
    exact h hp
  | cut p => trivial
  | newchannel s | remoteExec =>
    intro hs
    show k.2 ≠ ((Net.putBack st k').side k.1).count
    rw [putBack_blind (·.count) (fun _ _ => rfl)]; exact h hs
  -- a put-back only makes a queue longer
  | receive s id => exact fun hs hid => putBack_queue_ne_nil st k' k.1 k.2 (h hs hid)
  | _ => exact h

theorem step_foldl_putBack (fails : Item → Bool) (hand : List (Side × Nat)) (st : State) (op : Op)
    (h : ∀ k ∈ hand, Comm st k op) :
    step fails (hand.foldl putBack st) op =
      ((step fails st op).1, hand.foldl putBack (step fails st op).2) := by
  induction hand generalizing st with
  | nil => rfl
  | cons k t ih =>
    simp only [List.foldl_cons]
    rw [ih (putBack st k) (fun k' hk' => (h k' (List.mem_cons_of_mem _ hk')).putBack k)]
    rw [step_putBack fails st k op (h k (List.mem_cons_self ..))]

theorem foldl_putBack_comm (hand : List (Side × Nat)) (st : State) (k : Side × Nat) :
    hand.foldl putBack (putBack st k) = putBack (hand.foldl putBack st) k :=
  List.foldl_hom (putBack · k) (fun st k' => putBack_comm st k k')

theorem eraseOne_eq_erase (k : Side × Nat) (l : List (Side × Nat)) : eraseOne k l = l.erase k := by
  induction l with
  | nil => rfl
  | cons x t ih => simp only [eraseOne, List.erase_cons, beq_iff_eq, ih]

theorem foldl_putBack_erase (hand : List (Side × Nat)) (st : State) (k : Side × Nat) (h : k ∈ hand) :
    hand.foldl putBack st = (eraseOne k hand).foldl putBack (putBack st k) := by
  rw [eraseOne_eq_erase]
  exact (List.perm_cons_erase h).foldl_eq' (fun _ _ _ _ st => putBack_comm st _ _) st

theorem foldl_putBack_queue (hand : List (Side × Nat)) (st : State) (s : Side) (i : Nat) :
    ∃ n, (((hand.foldl putBack st).side s).chans i).queue =
      ((st.side s).chans i).queue.map (· ++ List.replicate n QItem.endmarker) := by
  induction hand generalizing st with
  | nil =>
    refine ⟨0, ?_⟩
    simp only [List.foldl_nil]
    cases ((st.side s).chans i).queue <;> simp
  | cons k t ih =>
    obtain ⟨n, hn⟩ := ih (putBack st k)
    simp only [List.foldl_cons]
    rw [hn, putBack_queue]
    split
    · refine ⟨n + 1, ?_⟩
      cases ((st.side s).chans i).queue with
      | none => rfl
      | some q =>
        simp only [pushEnd, Option.map, List.append_assoc, Option.some.injEq, List.append_cancel_left_eq]
        exact (List.replicate_succ ..).symm
    · exact ⟨n, rfl⟩

end ExecnetVerif.Net.Fine
