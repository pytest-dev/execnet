/-
The three phases of one sync over the skeleton.  The structure phase parses the sender's
pre-order stream back into the source's shape (`recv_stream`: the skeleton with the decision-table
leaves, and the requests of the leaves in pre-order); content phase and link phase are leaf-wise
passes over it; together `syncWith` in closed (structural) form.  Last, serving one message of a
channel does not change where the channel ends (`finishT_stepT`), whatever the schedule.
-/
import ExecnetVerif.Proofs.RsyncBasic
namespace ExecnetVerif.Rsync
open ExecnetVerif.Path

/-- the entry a file / link position is left with by the structure phase -/
def leaf1 : Tree → Tree → Tree
  | .file b m t, tgt => (decideFile (some m) t b.size tgt).1
  | .absent, tgt => (decideFile none 0 0 tgt).1
  | .link _, tgt => tgt
  | .dir _ _, tgt => tgt

/-- the request a file position issues (relative path `[]`) -/
def leafReq : Tree → Tree → List Req
  | .file b m t, tgt => match (decideFile (some m) t b.size tgt).2 with
    | none => []
    | some ck => [⟨[], some m, t, b.size, ck⟩]
  | .absent, tgt => match (decideFile none 0 0 tgt).2 with
    | none => []
    | some ck => [⟨[], none, 0, 0, ck⟩]
  | .link _, _ => []
  | .dir _ _, _ => []

def Req.pre (n : Name) (r : Req) : Req := { r with path := n :: r.path }
def Req.addPre (p : List Name) (r : Req) : Req := { r with path := p ++ r.path }

theorem Req.addPre_snoc (p : List Name) (n : Name) (r : Req) :
    Req.addPre (p ++ [n]) r = Req.addPre p (Req.pre n r) := by
  simp [Req.addPre, Req.pre]

theorem Req.addPre_nil : Req.addPre [] = id := by funext r; simp [Req.addPre]

theorem fuelOf_pos : ∀ t : Tree, 1 ≤ fuelOf t
  | .dir _ _ => Nat.le_add_right 1 _
  | .file .. => Nat.le_refl 1
  | .link _ => Nat.le_refl 1
  | .absent => Nat.le_refl 1

theorem exists_succ_of_fuelOf_le {t : Tree} {fuel : Nat} (h : fuelOf t ≤ fuel) : ∃ f, fuel = f + 1 :=
  ⟨fuel - 1, (Nat.sub_add_cancel (Nat.le_trans (fuelOf_pos t) h)).symm⟩

theorem recv_stream (del : Bool) : ∀ (src : Tree) fuel rel tgt rest, fuelOf src ≤ fuel →
    recv del fuel rel tgt (structMsgs src ++ rest) =
      (skel leaf1 del src tgt, (collect Req.pre leafReq src tgt).map (Req.addPre rel), rest) := by
  refine Tree.induct
    (Q := fun es => ∀ fuel rel tes rest, fuelOfL es ≤ fuel →
      recvEntries del fuel rel tes (es.map Prod.fst) (structMsgsL es ++ rest) =
        (skelL leaf1 del es tes, (collectL Req.pre leafReq es tes).map (Req.addPre rel), rest))
    ?file ?dir ?link ?absent ?nil ?cons
  case file =>
    intro b m t fuel rel tgt rest hf
    obtain ⟨f, rfl⟩ := exists_succ_of_fuelOf_le hf
    simp only [structMsgs, List.cons_append, List.nil_append, recv, collect, leafReq, skel, leaf1]
    cases (decideFile (some m) t b.size tgt).2 <;> simp [Req.addPre]
  case dir =>
    intro m es ih fuel rel tgt rest hf
    obtain ⟨f, rfl⟩ := exists_succ_of_fuelOf_le hf
    simp only [structMsgs, List.cons_append, recv, collect, skel]
    rw [ih f rel (entriesOf tgt) rest (by simp only [fuelOf] at hf; omega)]
    simp [others]
  case link =>
    intro tg fuel rel tgt rest hf
    obtain ⟨f, rfl⟩ := exists_succ_of_fuelOf_le hf
    simp [structMsgs, recv, collect, leafReq, skel, leaf1]
  case absent =>
    intro fuel rel tgt rest hf
    obtain ⟨f, rfl⟩ := exists_succ_of_fuelOf_le hf
    simp only [structMsgs, List.cons_append, List.nil_append, recv, collect, leafReq, skel, leaf1]
    cases (decideFile none 0 0 tgt).2 <;> simp [Req.addPre]
  case nil =>
    intro fuel rel tes rest _
    cases fuel <;> simp [recvEntries, structMsgsL, skelL, collectL]
  case cons =>
    intro n s tail ihh iht fuel rel tes rest hf
    simp only [fuelOfL] at hf
    obtain ⟨f, rfl⟩ : ∃ f, fuel = f + 1 := ⟨fuel - 1, by omega⟩
    simp only [List.map_cons, structMsgsL, List.append_assoc, recvEntries]
    rw [ihh f (rel ++ [n]) (lookup n tes) (structMsgsL tail ++ rest) (by omega)]
    rw [iht f rel tes rest (by omega)]
    simp [skelL, collectL, Req.addPre_snoc]

/-- mapping every collected item through `g` commutes with `collect` as soon as `g` commutes with
prefixing (`hg`); `wfTree` is needed only to turn `lookup n es` into the entry itself -/
theorem collect_flatMap {α β : Type} (preA : Name → α → α) (preB : Name → β → β) (leaf : Tree → Tree → List α)
    (g : Tree → α → List β)
    (hg : ∀ m es n a, g (.dir m es) (preA n a) = (g (lookup n es) a).map (preB n)) : ∀ (src : Tree),
    wfTree src → ∀ tgt, (collect preA leaf src tgt).flatMap (g src) =
      collect preB (fun s t => (leaf s t).flatMap (g s)) src tgt := by
  refine Tree.induct_wf ?_ ?_ ?_
  · intro b m t tgt; simp [collect]
  · intro m es _ ih tgt
    simp only [collect, collectL_eq, List.flatMap_assoc, List.flatMap_map, hg]
    refine flatMap_congr_mem (fun e he => ?_)
    rw [(ih e he).1, ← (ih e he).2, List.map_flatMap]
  · intro tg tgt; simp [collect]

/-- the file-system update one request ends in -/
def toUp (src : Tree) (r : Req) : List Up := [(r.path, writeFile r (senderData src r))]

/-- the `_report_send_file` call one request ends in -/
def sentL (src : Tree) (r : Req) : List (List Name) := if (senderData src r).isSome then [r.path] else []

theorem foldl_serveReq (src : Tree) : ∀ (reqs : List Req) (t : Tree) (sent : List (List Name)),
    reqs.foldl (serveReq src) (t, sent) = (run (reqs.flatMap (toUp src)) t, sent ++ reqs.flatMap (sentL src))
  | [], t, sent => by simp
  | r :: rs, t, sent => by
    simp only [List.foldl_cons, serveReq, List.flatMap_cons]
    rw [foldl_serveReq src rs]
    simp only [toUp, List.singleton_append, run_cons, sentL]
    cases senderData src r <;> simp

theorem senderData_pre (m : Nat) (es : Entries) (n : Name) (r : Req) :
    senderData (.dir m es) (Req.pre n r) = senderData (lookup n es) r := rfl

theorem toUp_pre (m : Nat) (es : Entries) (n : Name) (r : Req) :
    toUp (.dir m es) (Req.pre n r) = (toUp (lookup n es) r).map (Up.pre n) := rfl

theorem sentL_pre (m : Nat) (es : Entries) (n : Name) (r : Req) :
    sentL (.dir m es) (Req.pre n r) = (sentL (lookup n es) r).map (n :: ·) := by
  simp only [sentL, senderData_pre]
  by_cases h : (senderData (lookup n es) r).isSome = true <;> simp [h, Req.pre]

/-- where the receiver points a link classified as `c` -/
def resolveLink (dest : RawPath) (c : Bool × List String) : RawPath := if c.1 then pjoin dest c.2 else c.2

def linkUp (dest : RawPath) (l : LinkMsg) : Up := (l.path, fun _ => .link (resolveLink dest (l.base, l.payload)))

def leafLink (cl : RawPath → Bool × List String) (dest : RawPath) : Tree → Tree → List Up
  | .link tg, _ => [([], fun _ => .link (resolveLink dest (cl tg)))]
  | .file _ _ _, _ => []
  | .dir _ _, _ => []
  | .absent, _ => []

def Up.addPre (p : List Name) (u : Up) : Up := (p ++ u.1, u.2)

theorem Up.addPre_snoc (p : List Name) (n : Name) (u : Up) : Up.addPre (p ++ [n]) u = Up.addPre p (Up.pre n u) := by
  simp [Up.addPre, Up.pre]

theorem Up.addPre_nil : Up.addPre [] = id := by funext u; simp [Up.addPre]

theorem foldl_applyLink (dest : RawPath) : ∀ (links : List LinkMsg) (t : Tree),
    links.foldl (applyLink dest) t = run (links.map (linkUp dest)) t
  | [], t => rfl
  | l :: ls, t => by
    simp only [List.foldl_cons, List.map_cons, run_cons]
    rw [foldl_applyLink dest ls]
    rfl

theorem linkMsgsL_eq (cl : RawPath → Bool × List String) (p : List Name) : ∀ (es : List (Name × Tree)),
    linkMsgsL cl p es = es.flatMap (fun e => linkMsgs cl (p ++ [e.1]) e.2)
  | [] => rfl
  | (n, s) :: r => by simp only [linkMsgsL, List.flatMap_cons, linkMsgsL_eq cl p r]

theorem linkMsgs_collect (cl : RawPath → Bool × List String) (dest : RawPath) : ∀ (src : Tree) p tgt,
    (linkMsgs cl p src).map (linkUp dest) = (collect Up.pre (leafLink cl dest) src tgt).map (Up.addPre p) := by
  refine Tree.induct_mem ?_ ?_ ?_ ?_
  · intro b m t p tgt; simp [linkMsgs, collect, leafLink]
  · intro m es ih p tgt
    simp only [linkMsgs, collect, linkMsgsL_eq, collectL_eq, List.map_flatMap, List.map_map]
    refine flatMap_congr_mem (fun e he => ?_)
    rw [ih e he (p ++ [e.1]) (lookup e.1 (entriesOf tgt))]
    exact List.map_congr_left (fun u _ => Up.addPre_snoc p e.1 u)
  · intro tg p tgt; simp [linkMsgs, collect, leafLink, linkUp, Up.addPre]
  · intro p tgt; simp [linkMsgs, collect, leafLink]

/-- a file / link position after the content phase -/
def leaf2 (s t : Tree) : Tree := run ((leafReq s t).flatMap (toUp s)) (leaf1 s t)

/-- … and after the link phase -/
def leaf3 (cl : RawPath → Bool × List String) (dest : RawPath) (s t : Tree) : Tree :=
  run (leafLink cl dest s t) (leaf2 s t)

/-- the `_report_send_file` calls of a file position -/
def leafSent (s t : Tree) : List (List Name) := (leafReq s t).flatMap (sentL s)

theorem syncWith_closed (cl : RawPath → Bool × List String) (src : Tree) (tg : Target) (hw : wfTree src) :
    (syncWith cl src tg).tree = skel (leaf3 cl tg.destdir) tg.delete src tg.tree ∧
    (syncWith cl src tg).sent = collect (fun n p => n :: p) leafSent src tg.tree := by
  have hrecv := recv_stream tg.delete src (fuelOf src) [] tg.tree [] (Nat.le_refl _)
  simp only [List.append_nil, Req.addPre_nil, List.map_id] at hrecv
  simp only [syncWith, initT, finishT, hrecv, foldl_serveReq, foldl_applyLink, List.nil_append]
  constructor
  · have h1 := collect_flatMap Req.pre Up.pre leafReq toUp toUp_pre src hw tg.tree
    have h2 := pass (fun s t => (leafReq s t).flatMap (toUp s)) leaf1 tg.delete src hw tg.tree
    have h3 := linkMsgs_collect cl tg.destdir src [] tg.tree
    have h4 := pass (leafLink cl tg.destdir) leaf2 tg.delete src hw tg.tree
    simp only [Up.addPre_nil, List.map_id] at h3
    rw [h3, h1, h2]
    exact h4
  · exact collect_flatMap Req.pre (fun n p => n :: p) leafReq sentL sentL_pre src hw tg.tree

theorem finishT_stepT (links : List LinkMsg) (src : Tree) (st : TState) :
    finishT links src (stepT links src st) = finishT links src st := by
  obtain ⟨dest, tree, sent, pending⟩ := st
  cases pending with
  | none => rfl
  | some reqs =>
    cases reqs with
    | nil => rfl
    | cons r rs => rfl

theorem map_finishT_modifyAt (links : List LinkMsg) (src : Tree) : ∀ (i : Nat) (sts : List TState),
    (modifyAt (stepT links src) i sts).map (finishT links src) = sts.map (finishT links src)
  | i, [] => by cases i <;> rfl
  | 0, s :: r => by simp [modifyAt, finishT_stepT]
  | i + 1, s :: r => by simp [modifyAt, map_finishT_modifyAt links src i r]

theorem map_finishT_sched (links : List LinkMsg) (src : Tree) : ∀ (sched : List Nat) (sts : List TState),
    (sched.foldl (fun sts i => modifyAt (stepT links src) i sts) sts).map (finishT links src) =
      sts.map (finishT links src)
  | [], _ => rfl
  | i :: sched, sts => by
    simp only [List.foldl_cons]
    rw [map_finishT_sched links src sched, map_finishT_modifyAt]

end ExecnetVerif.Rsync
