/-
Every step of the fixed protocol preserves `Inv`, by agent kind with one case per action; hence `Inv` holds in every
reachable state, in particular in the state an executable schedule reaches (`runGet`).
-/
import ExecnetVerif.Proofs.PoolFrame
namespace ExecnetVerif.Pool

theorem inv_userStep {c : Config} {s s' : State} {i : Uid} {act : Action} (hc : c.old = false) (h : Inv c s)
    (hs : userStep c s i act = some s') : Inv c s' := by
  cases act <;> simp only [userStep] at hs
  -- to a state of which `UOk` asks nothing, the lock kept, taken or released
  case spawnReturn | refusedReturn | shutReturn | waReturn | getReturn | getCall =>
    split at hs <;> cases hs
    next hi => exact h.userMove hi rfl rfl trivial
  case shutAcq =>
    split at hs <;> cases hs
    next hi => exact h.userAcquire hi.1 rfl hi.2 rfl trivial
  case spawnRelease =>
    split at hs <;> cases hs
    next hi => exact h.userRelease hi nofun rfl rfl trivial
  case spawnAcq t =>
    split at hs <;> cases hs
    next hi =>
      exact h.userAcquire hi.1 rfl hi.2.1 rfl ⟨hi.2.2.1, fun hg u hu => gateOk_spec hi.2.2.2 hg u ((h.acc u).2 hu)⟩
  case spawnCheck =>
    split at hs
    next t hi =>
      split at hs
      · cases hs; exact h.userRelease hi nofun rfl rfl trivial
      next hsh =>
        have hsh : s.shut = false := by simpa using hsh
        split at hs
        next hr => cases hs; exact h.accept hi hsh (.mailbox hr.1 hr.2)
        next hr =>
          have hr : c.primary = true → s.ready = true := by simpa using hr
          split at hs
          next m hpm hm =>
            cases hs
            have hpm : c.primary = true ∧ c.mto = true := by simpa using hpm
            exact h.accept hi hsh (.behind m hpm.1 hpm.2 (hr hpm.1) hm)
          · cases hs; exact h.accept hi hsh (.worker hr)
    · cases hs
  case spawnWaitfin =>
    split at hs
    next t m hi =>
      split at hs <;> cases hs
      next hr => exact h.handOver hi hr
    · cases hs
  -- `trigger_shutdown`: the update under the lock, then the release
  case shutDo =>
    simp only [hc, Bool.false_eq_true, false_or] at hs
    split at hs
    next hi =>
      split at hs <;> cases hs
      next hr => exact (h.shutdown (.wake hr.1 hr.2)).userRelease hi nofun rfl rfl trivial
      next hr => exact (h.shutdown (.leave (by simpa using hr))).userRelease hi nofun rfl rfl trivial
    · cases hs
  -- `waitall`: the snapshot is `accepted`, the flag is `shut`
  case waAcq b =>
    split at hs <;> cases hs
    next hi =>
      refine h.setUser hi.1 nofun (.inr (.inl ⟨hi.2, rfl, rfl⟩))
        (fun j hj => ⟨rfl, rfl, upd_of_ne _ _ hj, upd_of_ne _ _ hj⟩) ?_
      show UOk.WaOk _ i
      simp only [UOk.WaOk, upd_self]
      exact ⟨fun t => (h.acc t).1, fun hw => ⟨hw, fun t => (h.acc t).2⟩⟩
  case waCheck =>
    split at hs
    next b hi =>
      have hu := h.uok_of hi
      split at hs <;> cases hs
      next he =>
        exact h.userRelease hi nofun rfl rfl
          ⟨hu, fun _ t ht => h.done_of_not_running (hu.1 t ht) (by rw [he]; exact List.not_mem_nil)⟩
      next he =>
        refine h.setUser hi nofun (.inr (.inr ⟨rfl, rfl, rfl⟩))
          (fun j hj => ⟨upd_of_ne _ _ hj, upd_of_ne _ _ hj, rfl, rfl⟩)
          ⟨hu, fun _ => ⟨upd_self .., he⟩, fun hf => ?_⟩
        exact absurd (hf.symm.trans (upd_self ..)) nofun
    · cases hs
  case waWake =>
    split at hs
    · split at hs <;> cases hs
      next b hi hr =>
        have hu := h.uok_of hi
        exact h.userMove hi rfl rfl ⟨hu.1, fun _ => hu.2.2 hr⟩
    · cases hs
  case waTimeout =>
    split at hs
    · split at hs <;> cases hs
      next hi hr =>
        have hu := h.uok_of hi
        exact h.userMove hi rfl rfl ⟨hu.1, nofun⟩
    · cases hs
  case getOk =>
    split at hs
    · split at hs <;> cases hs
      next hi hr => exact h.userMove hi rfl rfl fun _ => bodyEnded_of_resultReady hr
    · cases hs
  case getTimeout =>
    split at hs
    · split at hs <;> cases hs
      next hi hr => exact h.userMove hi rfl rfl nofun
    · cases hs
  all_goals cases hs

theorem inv_taskStep {c : Config} {s s' : State} {a : Agent} {act : Action} (h : Inv c s)
    (hs : taskStep s a act = some s') : Inv c s' := by
  cases act <;> simp only [taskStep] at hs
  case tBegin t =>
    split at hs <;> cases hs
    next hc => exact h.advance (.begin hc.1 hc.2)
  case tEnd t =>
    split at hs <;> cases hs
    next hc => exact h.advance (.finish hc.1 hc.2)
  case tSetReady t =>
    split at hs <;> cases hs
    next hc => exact h.advance (.setReady hc.1 hc.2)
  case tRemAcq t =>
    split at hs <;> cases hs
    next hc => exact h.advance (.acquire hc.1 hc.2.1 hc.2.2)
  case tRemove t =>
    split at hs
    next hc =>
      split at hs <;> cases hs
      next he =>
        -- every registered caller is woken: none is left with its event unset
        exact h.remove hc.1 hc.2 (fun i b hi hf => by have := h.wlost i b hi; simp_all) fun _ _ _ _ => .inr he
      next he =>
        exact h.remove hc.1 hc.2 (fun i b hi hf => ⟨(h.wlost i b hi hf).1, he⟩) fun _ _ _ ht => .inl ht
    · cases hs
  all_goals cases hs

theorem inv_primStep {c : Config} {s s' : State} {act : Action} (hc : c.old = false) (h : Inv c s)
    (hs : primStep c s act = some s') : Inv c s' := by
  cases act <;> simp only [primStep] at hs
  case pWait =>
    split at hs <;> cases hs
    next hp => exact h.primLoop (.wake hp.1 hp.2)
  case pRead =>
    split at hs
    next hp =>
      split at hs <;> cases hs
      next hm => exact h.primLoop (.leave hp hm)
      next t hm => exact h.advance (a := .primary) (.read hp hm)
    · cases hs
  case pChkAcq =>
    split at hs
    next t hp =>
      split at hs <;> cases hs
      next hl => exact h.primAcquire hp hl
    · cases hs
  case pCheck =>
    simp only [hc, Bool.false_eq_true, ↓reduceIte] at hs
    split at hs
    next t hp =>
      split at hs
      next hm =>
        split at hs <;> cases hs
        next hsh => exact h.primCheck hp (.leave hm hsh)
        next hsh => exact h.primCheck hp (.clear hm (by simpa using hsh))
      next hm => cases hs; exact h.primCheck hp (.next hm)
    · cases hs
  case pLeave =>
    split at hs <;> cases hs
    next hp => exact h.primLoop (.gone hp)
  all_goals cases hs

theorem inv_spawnAcq {c : Config} {s s' : State} {i : Uid} {t} (hc : c.old = false) (h : Inv c s)
    (hs : userStep c s i (.spawnAcq t) = some s') : Inv c s' :=
  inv_userStep hc h hs

theorem inv_spawnCheck {c : Config} {s s' : State} {i : Uid} (hc : c.old = false) (h : Inv c s)
    (hs : userStep c s i (.spawnCheck) = some s') : Inv c s' :=
  inv_userStep hc h hs

theorem inv_spawnWaitfin {c : Config} {s s' : State} {i : Uid} (hc : c.old = false) (h : Inv c s)
    (hs : userStep c s i (.spawnWaitfin) = some s') : Inv c s' :=
  inv_userStep hc h hs

theorem inv_spawnRelease {c : Config} {s s' : State} {i : Uid} (hc : c.old = false) (h : Inv c s)
    (hs : userStep c s i (.spawnRelease) = some s') : Inv c s' :=
  inv_userStep hc h hs

theorem inv_spawnReturn {c : Config} {s s' : State} {i : Uid} (hc : c.old = false) (h : Inv c s)
    (hs : userStep c s i (.spawnReturn) = some s') : Inv c s' :=
  inv_userStep hc h hs

theorem inv_refusedReturn {c : Config} {s s' : State} {i : Uid} (hc : c.old = false) (h : Inv c s)
    (hs : userStep c s i (.refusedReturn) = some s') : Inv c s' :=
  inv_userStep hc h hs

theorem inv_shutAcq {c : Config} {s s' : State} {i : Uid} (hc : c.old = false) (h : Inv c s)
    (hs : userStep c s i (.shutAcq) = some s') : Inv c s' :=
  inv_userStep hc h hs

theorem inv_shutDo {c : Config} {s s' : State} {i : Uid} (hc : c.old = false) (h : Inv c s)
    (hs : userStep c s i (.shutDo) = some s') : Inv c s' :=
  inv_userStep hc h hs

theorem inv_shutReturn {c : Config} {s s' : State} {i : Uid} (hc : c.old = false) (h : Inv c s)
    (hs : userStep c s i (.shutReturn) = some s') : Inv c s' :=
  inv_userStep hc h hs

theorem inv_waAcq {c : Config} {s s' : State} {i : Uid} {b} (hc : c.old = false) (h : Inv c s)
    (hs : userStep c s i (.waAcq b) = some s') : Inv c s' :=
  inv_userStep hc h hs

theorem inv_waCheck {c : Config} {s s' : State} {i : Uid} (hc : c.old = false) (h : Inv c s)
    (hs : userStep c s i (.waCheck) = some s') : Inv c s' :=
  inv_userStep hc h hs

theorem inv_waWake {c : Config} {s s' : State} {i : Uid} (hc : c.old = false) (h : Inv c s)
    (hs : userStep c s i (.waWake) = some s') : Inv c s' :=
  inv_userStep hc h hs

theorem inv_waTimeout {c : Config} {s s' : State} {i : Uid} (hc : c.old = false) (h : Inv c s)
    (hs : userStep c s i (.waTimeout) = some s') : Inv c s' :=
  inv_userStep hc h hs

theorem inv_waReturn {c : Config} {s s' : State} {i : Uid} (hc : c.old = false) (h : Inv c s)
    (hs : userStep c s i (.waReturn) = some s') : Inv c s' :=
  inv_userStep hc h hs

theorem inv_getCall {c : Config} {s s' : State} {i : Uid} {t b} (hc : c.old = false) (h : Inv c s)
    (hs : userStep c s i (.getCall t b) = some s') : Inv c s' :=
  inv_userStep hc h hs

theorem inv_getOk {c : Config} {s s' : State} {i : Uid} (hc : c.old = false) (h : Inv c s)
    (hs : userStep c s i (.getOk) = some s') : Inv c s' :=
  inv_userStep hc h hs

theorem inv_getTimeout {c : Config} {s s' : State} {i : Uid} (hc : c.old = false) (h : Inv c s)
    (hs : userStep c s i (.getTimeout) = some s') : Inv c s' :=
  inv_userStep hc h hs

theorem inv_getReturn {c : Config} {s s' : State} {i : Uid} (hc : c.old = false) (h : Inv c s)
    (hs : userStep c s i (.getReturn) = some s') : Inv c s' :=
  inv_userStep hc h hs

theorem inv_tBegin {c : Config} {s s' : State} {a : Agent} {t : TaskId} (h : Inv c s)
    (hs : taskStep s a (.tBegin t) = some s') : Inv c s' :=
  inv_taskStep h hs

theorem inv_tEnd {c : Config} {s s' : State} {a : Agent} {t : TaskId} (h : Inv c s)
    (hs : taskStep s a (.tEnd t) = some s') : Inv c s' :=
  inv_taskStep h hs

theorem inv_tSetReady {c : Config} {s s' : State} {a : Agent} {t : TaskId} (h : Inv c s)
    (hs : taskStep s a (.tSetReady t) = some s') : Inv c s' :=
  inv_taskStep h hs

theorem inv_tRemAcq {c : Config} {s s' : State} {a : Agent} {t : TaskId} (h : Inv c s)
    (hs : taskStep s a (.tRemAcq t) = some s') : Inv c s' :=
  inv_taskStep h hs

theorem inv_tRemove {c : Config} {s s' : State} {a : Agent} {t : TaskId} (h : Inv c s)
    (hs : taskStep s a (.tRemove t) = some s') : Inv c s' :=
  inv_taskStep h hs

theorem inv_pWait {c : Config} {s s' : State} (hc : c.old = false) (h : Inv c s)
    (hs : primStep c s .pWait = some s') : Inv c s' :=
  inv_primStep hc h hs

theorem inv_pRead {c : Config} {s s' : State} (hc : c.old = false) (h : Inv c s)
    (hs : primStep c s .pRead = some s') : Inv c s' :=
  inv_primStep hc h hs

theorem inv_pChkAcq {c : Config} {s s' : State} (hc : c.old = false) (h : Inv c s)
    (hs : primStep c s .pChkAcq = some s') : Inv c s' :=
  inv_primStep hc h hs

theorem inv_pCheck {c : Config} {s s' : State} (hc : c.old = false) (h : Inv c s)
    (hs : primStep c s .pCheck = some s') : Inv c s' :=
  inv_primStep hc h hs

theorem inv_pLeave {c : Config} {s s' : State} (hc : c.old = false) (h : Inv c s)
    (hs : primStep c s .pLeave = some s') : Inv c s' :=
  inv_primStep hc h hs

theorem inv_step {c : Config} {s s' : State} {a : Agent × Action} (hc : c.old = false) (h : Inv c s)
    (hs : step c s a = some s') : Inv c s' := by
  obtain ⟨ag, act⟩ := a
  cases ag with
  | user i => exact inv_userStep hc h hs
  | worker t => exact inv_taskStep h hs
  | primary =>
    simp only [step] at hs
    split at hs
    · exact inv_primStep hc h hs
    · exact inv_taskStep h hs

theorem inv_reachable {c : Config} {s : State} (hc : c.old = false) (h : Reachable c s) : Inv c s := by
  induction h with
  | init => exact inv_init c
  | step _ hs ih => exact inv_step hc ih hs

theorem reachable_runSteps {c : Config} {s s' : State} (l : List (Agent × Action)) (h : Reachable c s)
    (hr : runSteps c s l = some s') : Reachable c s' := by
  induction l generalizing s with
  | nil => simp [runSteps] at hr; exact hr ▸ h
  | cons a rest ih =>
    simp only [runSteps] at hr
    split at hr
    · rename_i s1 hs1; exact ih (Reachable.step h hs1) hr
    · cases hr

def runGet (c : Config) (l : List (Agent × Action)) (h : (runSteps c (init c) l).isSome = true) : State :=
  (runSteps c (init c) l).get h

theorem reachable_runGet (c : Config) (l : List (Agent × Action)) (h : (runSteps c (init c) l).isSome = true) :
    Reachable c (runGet c l h) :=
  reachable_runSteps l Reachable.init (by simp [runGet])

end ExecnetVerif.Pool
