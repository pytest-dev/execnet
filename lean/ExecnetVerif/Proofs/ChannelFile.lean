/-
Abstraction function: `Reader.pending` (buffer ++ queued items, flattened) corresponds to `File.rem`.
What a `read` does to the reader is a relation `Reads` that is closed under composition, so it holds of
`readline` (a `read` followed by a loop of `read(1)`s) as well, and of every `step`; what a call returns is
`Call.out` of what is unread, on the reader and on the file.
-/
import ExecnetVerif.Model.ChannelFile
namespace ExecnetVerif
namespace ChannelFile

-- `[DecidableEq α]` is on every statement, also where only the model's definitions need it
set_option linter.unusedSectionVars false

variable {α : Type} [DecidableEq α]

theorem takeLine_nil (nl : α) : takeLine nl ([] : List α) = [] := rfl

theorem takeLine_cons_nl (nl : α) (xs : List α) : takeLine nl (nl :: xs) = [nl] := by
  simp [takeLine]

theorem takeLine_cons_ne (nl x : α) (xs : List α) (h : x ≠ nl) :
    takeLine nl (x :: xs) = x :: takeLine nl xs := by
  simp [takeLine, h]

/-- `line` is what `readline` has read so far: no newline before its last element -/
theorem takeLine_append (nl : α) : ∀ (line R : List α), nl ∉ line.dropLast →
    takeLine nl (line ++ R) = line ++ if line.getLast? = some nl then [] else takeLine nl R
  | [], R, _ => by simp
  | [x], R, _ => by by_cases hx : x = nl <;> simp [takeLine, hx]
  | x :: y :: r, R, h => by
    rw [List.dropLast_cons_cons, List.mem_cons, not_or] at h
    rw [List.cons_append, takeLine_cons_ne nl x _ (Ne.symm h.1), takeLine_append nl (y :: r) R h.2,
      List.getLast?_cons_cons]
    rfl

theorem find?_none (nl : α) : ∀ {b : List α}, find? nl b = none → nl ∉ b
  | [], _ => by simp
  | x :: xs, h => by
    by_cases hx : x = nl
    · simp [find?, hx] at h
    · simp only [find?, hx, if_false, Option.map_eq_none_iff] at h
      simp only [List.mem_cons, not_or]
      exact ⟨Ne.symm hx, find?_none nl h⟩

theorem find?_some (nl : α) : ∀ {b : List α} {i : Nat}, find? nl b = some i →
    ∃ pre post, b = pre ++ nl :: post ∧ pre.length = i ∧ nl ∉ pre
  | [], _, h => nomatch h
  | x :: xs, i, h => by
    by_cases hx : x = nl
    · simp only [find?, hx, if_true, Option.some.injEq] at h
      exact ⟨[], xs, by simp [hx], h, by simp⟩
    · simp only [find?, hx, if_false, Option.map_eq_some_iff] at h
      obtain ⟨j, hj, rfl⟩ := h
      obtain ⟨pre, post, rfl, rfl, hn⟩ := find?_some nl hj
      exact ⟨x :: pre, post, rfl, rfl, by simp [hn, Ne.symm hx]⟩

/-- the receive loop in terms of the slices `buffer[:n]` / `buffer[n:]` that `read` takes of its result;
the flag is `EOFError` -/
theorem fill_spec (n : Nat) : ∀ (rest : List (List α)) (buf : List α),
    (fill n buf rest).1.take n = (buf ++ rest.flatten).take n ∧
    (fill n buf rest).1.drop n ++ (fill n buf rest).2.1.flatten = (buf ++ rest.flatten).drop n ∧
    ((buf ++ rest.flatten).length < n → (fill n buf rest).2.2 = true) ∧
    ((fill n buf rest).2.2 = true → (fill n buf rest).2.1 = [] ∧ (fill n buf rest).1.drop n = [])
  | [], buf => by
    simp only [fill, List.flatten_nil, List.append_nil, decide_eq_true_eq, true_and, List.drop_eq_nil_iff]
    exact ⟨id, fun h => by omega⟩
  | it :: r, buf => by
    by_cases h : buf.length < n
    · simp only [fill, h, if_true, List.flatten_cons, ← List.append_assoc]
      exact fill_spec n r (buf ++ it)
    · simp only [fill, h, if_false]
      have hn : n ≤ buf.length := by omega
      refine ⟨(List.take_append_of_le_length hn).symm, (List.drop_append_of_le_length hn).symm,
        fun hl => ?_, fun e => nomatch e⟩
      rw [List.length_append] at hl
      omega

theorem fill_rest_nil (n : Nat) (buf : List α) : (fill n buf []).2.1 = [] := rfl

theorem atEnd_iff (s : Reader α) : s.atEnd ↔ s.rest = [] ∧ s.pending = [] := by
  obtain ⟨buf, rest, pc, cl⟩ := s
  simp only [Reader.atEnd, Reader.pending]
  constructor
  · rintro ⟨h1, h2⟩; subst h1; simp [h2]
  · rintro ⟨h1, h2⟩; subst h1; simpa using h2

/-- what a call may do to the reader `s` (`r` = what it returns and the state it leaves; `eof` =
`receive()` raised `EOFError`).  Such steps compose (`Reads.comp`): that is all `readline`'s loop of
`read(1)`s needs to know about `read`. -/
structure Reads (s : Reader α) (r : List α × Reader α) (eof : Bool) : Prop where
  split : r.1 ++ r.2.pending = s.pending
  proxyclose : r.2.proxyclose = s.proxyclose
  closed : r.2.closed = (s.closed || (eof && s.proxyclose))
  atEnd_of_eof : eof = true → r.2.atEnd
  rest_nil : s.rest = [] → r.2.rest = []

theorem Reads.pending {s : Reader α} {r : List α × Reader α} {e : Bool} (h : Reads s r e) :
    r.2.pending = s.pending.drop r.1.length := by
  rw [← h.split, List.drop_left]

theorem Reads.atEnd {s : Reader α} {r : List α × Reader α} {e : Bool} (h : Reads s r e) (hs : s.atEnd) :
    r.1 = [] ∧ r.2.atEnd := by
  rw [atEnd_iff] at hs ⊢
  have := h.split
  rw [hs.2, List.append_eq_nil_iff] at this
  exact ⟨this.1, h.rest_nil hs.1, this.2⟩

theorem Reads.comp {s : Reader α} {r₁ r₂ : List α × Reader α} {e₁ e₂ : Bool} (h₁ : Reads s r₁ e₁)
    (h₂ : Reads r₁.2 r₂ e₂) : Reads s (r₁.1 ++ r₂.1, r₂.2) (e₁ || e₂) where
  split := by rw [List.append_assoc, h₂.split, h₁.split]
  proxyclose := h₂.proxyclose.trans h₁.proxyclose
  closed := by rw [h₂.closed, h₁.closed, h₁.proxyclose, Bool.or_assoc, Bool.and_or_distrib_right]
  atEnd_of_eof := fun h => by
    cases e₂ with
    | true => exact h₂.atEnd_of_eof rfl
    | false => exact (h₂.atEnd (h₁.atEnd_of_eof (by simpa using h))).2
  rest_nil := fun h => h₂.rest_nil (h₁.rest_nil h)

/-- a call in state `s` with outcome `r` returned `out`, and was `short` of what was asked for only after
`EOFError` -/
def Meets (s : Reader α) (r : List α × Reader α) (out : List α) (short : Prop) : Prop :=
  ∃ eof, Reads s r eof ∧ r.1 = out ∧ (short → eof = true)

theorem Meets.ended {s : Reader α} {r : List α × Reader α} {out : List α} {short : Prop}
    (h : Meets s r out short) (hs : short) : r.2.atEnd ∧ (s.proxyclose = true → r.2.closed = true) := by
  obtain ⟨eof, hr, _, he⟩ := h
  have := he hs
  exact ⟨hr.atEnd_of_eof this, fun hp => by simp [hr.closed, this, hp]⟩

theorem read_spec (n : Nat) (s : Reader α) : Meets s (s.read n) (s.pending.take n) ((s.read n).1.length < n) := by
  have fromBuf : ∀ b r pc cl, Meets (⟨some b, r, pc, cl⟩ : Reader α) (Reader.read n ⟨some b, r, pc, cl⟩)
      ((b ++ r.flatten).take n) ((Reader.read n ⟨some b, r, pc, cl⟩).1.length < n) := by
    intro b r pc cl
    obtain ⟨f1, f2, f3, f4⟩ := fill_spec n r b
    refine ⟨(fill n b r).2.2, ⟨?_, rfl, rfl, f4, fun e => by subst e; rfl⟩, f1, fun h => f3 ?_⟩
    · show (fill n b r).1.take n ++ ((fill n b r).1.drop n ++ (fill n b r).2.1.flatten) = b ++ r.flatten
      rw [f1, f2, List.take_append_drop]
    · rw [show (Reader.read n ⟨some b, r, pc, cl⟩).1 = _ from f1, List.length_take] at h
      omega
  obtain ⟨buf, rest, pc, cl⟩ := s
  cases buf with
  | none =>
    cases rest with
    | nil => exact ⟨true, ⟨rfl, rfl, rfl, fun _ => ⟨rfl, rfl⟩, fun _ => rfl⟩, by simp [Reader.read, Reader.pending],
        fun _ => rfl⟩
    | cons it r =>
      -- the first `receive()` makes the first item the buffer: the same `read` as from `some it`
      obtain ⟨eof, h, ho, hs⟩ := fromBuf it r pc cl
      exact ⟨eof, ⟨h.split, h.proxyclose, h.closed, h.atEnd_of_eof, fun e => nomatch e⟩, ho, hs⟩
  | some b => exact fromBuf b rest pc cl

/-- the loop invariant: so far `line` was read from `s₀`, and the line of `s₀` is `line` continued by the
line of what is pending unless `line` has ended -/
theorem lineLoop_spec (nl : α) (s₀ : Reader α) : ∀ (fuel : Nat) (s : Reader α) (line : List α) (e : Bool),
    Reads s₀ (line, s) e →
    takeLine nl s₀.pending = line ++ (if line.getLast? = some nl then [] else takeLine nl s.pending) →
    (line = [] → e = true) → s.pending.length < fuel →
    Meets s₀ (lineLoop nl fuel s line) (takeLine nl s₀.pending) ((lineLoop nl fuel s line).1.getLast? ≠ some nl)
  | 0, _, _, _, _, _, _, hf => by omega
  | fuel + 1, s, line, e, hr, hI, he, hf => by
    simp only [lineLoop]
    split
    · next h =>
      -- the line has ended, or nothing was there (then `EOFError` was raised and nothing is pending)
      refine ⟨e, hr, ?_, fun hl => he (h.resolve_right hl)⟩
      rcases h with h | h
      · rw [hI, ((atEnd_iff s).1 (hr.atEnd_of_eof (he h))).2]; simp [takeLine]
      · rw [hI, if_pos h, List.append_nil]
    · next h =>
      rw [not_or] at h
      obtain ⟨e₁, h₁, ho, hs⟩ := read_spec 1 s
      have hc := hr.comp h₁
      have hsp := h₁.split
      rw [ho] at hc hsp
      rw [if_neg h.2] at hI
      cases hp : s.pending with
      | nil =>
        -- `read(1)` returns nothing: `EOFError`
        simp only [ho, hp, List.take_nil, if_true]
        rw [hp, List.take_nil, List.append_nil] at hc
        rw [hp, takeLine_nil, List.append_nil] at hI
        exact ⟨e || e₁, hc, hI.symm, fun _ => by simp [hs (by simp [ho, hp])]⟩
      | cons x xs =>
        rw [hp] at hf hc hsp hI
        simp only [ho, hp, List.take_succ_cons, List.take_zero, List.cons_ne_nil, if_false]
        replace hsp : (s.read 1).2.pending = xs := by simpa using hsp
        refine lineLoop_spec nl s₀ fuel _ _ _ hc ?_ (by simp) (by simp at hf; rw [hsp]; omega)
        rw [List.getLast?_concat, List.append_assoc, hI]
        by_cases hx : x = nl <;> simp [takeLine, hx, hsp]

theorem readline_spec (nl : α) (s : Reader α) :
    Meets s (s.readline nl) (takeLine nl s.pending) ((s.readline nl).1.getLast? ≠ some nl) := by
  -- a first `read(n)`, `n > 0`, that stops short of any newline before its last element, then the tail loop
  have viaLoop : ∀ n, 0 < n → nl ∉ (s.pending.take n).dropLast →
      Meets s (lineLoop nl ((s.read n).2.pending.length + 1) (s.read n).2 (s.read n).1) (takeLine nl s.pending)
        ((lineLoop nl ((s.read n).2.pending.length + 1) (s.read n).2 (s.read n).1).1.getLast? ≠ some nl) := by
    intro n hn hd
    obtain ⟨e, hr, ho, hs⟩ := read_spec n s
    refine lineLoop_spec nl s _ _ _ e hr ?_ (fun h => hs (by rw [h]; exact hn)) (Nat.lt_succ_self _)
    rw [← takeLine_append nl _ _ (ho ▸ hd), hr.split]
  cases hb : s.buf with
  | none =>
    simp only [Reader.readline, hb]
    exact viaLoop 1 (by omega) (by cases s.pending <;> simp)
  | some b =>
    have hpend : s.pending = b ++ s.rest.flatten := by simp [Reader.pending, hb]
    cases hf : find? nl b with
    | some i =>
      simp only [Reader.readline, hb, hf]
      obtain ⟨e, hr, ho, _⟩ := read_spec (i + 1) s
      obtain ⟨pre, post, rfl, rfl, hn⟩ := find?_some nl hf
      rw [hpend, List.append_assoc, List.take_length_add_append, List.cons_append, List.take_succ_cons,
        List.take_zero] at ho
      refine ⟨e, hr, ?_, fun h => absurd (by rw [ho, List.getLast?_concat]) h⟩
      have := takeLine_append nl (pre ++ [nl]) (post ++ s.rest.flatten) (by rwa [List.dropLast_concat])
      rw [ho, hpend]
      simpa using this.symm
    | none =>
      simp only [Reader.readline, hb, hf]
      refine viaLoop (b.length + 1) (by omega) fun hm => find?_none nl hf ?_
      rw [hpend, List.take_length_add_append] at hm
      cases hr : s.rest.flatten with
      | nil => rw [hr, List.take_nil, List.append_nil] at hm; exact List.dropLast_subset _ hm
      | cons x xs => rwa [hr, List.take_succ_cons, List.take_zero, List.dropLast_concat] at hm

theorem readline_out (nl : α) (s : Reader α) : (s.readline nl).1 = takeLine nl s.pending :=
  (readline_spec nl s).elim fun _ h => h.2.1

theorem readline_pending (nl : α) (s : Reader α) :
    (s.readline nl).2.pending = s.pending.drop (takeLine nl s.pending).length := by
  rw [← readline_out]
  exact (readline_spec nl s).elim fun _ h => h.1.pending

theorem pending_init (items : List (List α)) (proxyclose closed0 : Bool) :
    (Reader.init items proxyclose closed0).pending = items.flatten := by
  simp [Reader.pending, Reader.init]

/-- what a call returns on unread data `l` -/
def Call.out (nl : α) (l : List α) : Call → List α
  | .read n => l.take n
  | .readline => takeLine nl l

theorem step_spec (nl : α) (s : Reader α) (c : Call) :
    ∃ eof, Reads s (s.step nl c) eof ∧ (s.step nl c).1 = c.out nl s.pending := by
  cases c with
  | read n => exact (read_spec n s).imp fun _ h => ⟨h.1, h.2.1⟩
  | readline => exact (readline_spec nl s).imp fun _ h => ⟨h.1, h.2.1⟩

theorem File.step_eq (nl : α) (f : File α) (c : Call) :
    f.step nl c = (c.out nl f.rem, { f with pos := f.pos + (c.out nl f.rem).length }) := by
  cases c <;> rfl

theorem step_refines (nl : α) (s : Reader α) (f : File α) (h : s.pending = f.rem) (c : Call) :
    (s.step nl c).1 = (f.step nl c).1 ∧ (s.step nl c).2.pending = (f.step nl c).2.rem := by
  obtain ⟨_, hr, ho⟩ := step_spec nl s c
  rw [File.step_eq, hr.pending, ho, h]
  exact ⟨rfl, (List.drop_drop : (f.data.drop f.pos).drop _ = f.data.drop (f.pos + _))⟩

theorem run_refines (nl : α) : ∀ (calls : List Call) (s : Reader α) (f : File α), s.pending = f.rem →
    (Reader.run nl s calls).1 = (File.run nl f calls).1 ∧
    (Reader.run nl s calls).2.pending = (File.run nl f calls).2.rem
  | [], _, _, h => ⟨rfl, h⟩
  | c :: cs, s, f, h => by
    have hs := step_refines nl s f h c
    have ih := run_refines nl cs _ _ hs.2
    simp only [Reader.run, File.run]
    exact ⟨by rw [hs.1, ih.1], ih.2⟩

theorem run_conserve (nl : α) : ∀ (calls : List Call) (s : Reader α),
    (Reader.run nl s calls).1.flatten ++ (Reader.run nl s calls).2.pending = s.pending
  | [], _ => by simp [Reader.run]
  | c :: cs, s => by
    simp only [Reader.run, List.flatten_cons, List.append_assoc]
    rw [run_conserve nl cs]
    exact (step_spec nl s c).elim fun _ h => h.1.split

theorem run_preserves (nl : α) {P : Reader α → Prop} (h : ∀ s r e, Reads s r e → P s → P r.2) :
    ∀ (calls : List Call) (s : Reader α), P s → P (Reader.run nl s calls).2
  | [], _, hs => hs
  | c :: cs, s, hs => by
    simp only [Reader.run]
    exact run_preserves nl h cs _ ((step_spec nl s c).elim fun _ hr => h _ _ _ hr.1 hs)

/-- at the end nothing is pending, so by conservation nothing is returned -/
theorem run_atEnd (nl : α) (calls : List Call) (s : Reader α) (h : s.atEnd) :
    (∀ o ∈ (Reader.run nl s calls).1, o = []) ∧ (Reader.run nl s calls).2.atEnd := by
  have hc := run_conserve nl calls s
  rw [((atEnd_iff s).1 h).2, List.append_eq_nil_iff, List.flatten_eq_nil_iff] at hc
  exact ⟨hc.1, run_preserves nl (P := Reader.atEnd) (fun _ _ _ hr hs => (hr.atEnd hs).2) calls s h⟩

theorem run_closed_of_not_proxyclose (nl : α) (calls : List Call) (s : Reader α)
    (h : s.proxyclose = false) : (Reader.run nl s calls).2.closed = s.closed :=
  (run_preserves nl (P := fun s' => s'.proxyclose = false ∧ s'.closed = s.closed)
    (fun s' _ _ hr hs => ⟨hr.proxyclose.trans hs.1, by simp [hr.closed, hs.1, hs.2]⟩) calls s ⟨h, rfl⟩).2

theorem run_closed_mono (nl : α) : ∀ (calls : List Call) (s : Reader α),
    s.closed = true → (Reader.run nl s calls).2.closed = true :=
  run_preserves nl (fun _ _ _ hr h => by simp [hr.closed, h])

theorem writer_run_spec : ∀ (ops : List (WOp α)) (w : Writer α),
    (Writer.run w ops).2.sent = w.sent ++ acceptedWrites ops (Writer.run w ops).1
  | [], w => (List.append_nil _).symm
  | o :: os, w => by
    show (Writer.run (w.step o).2 os).2.sent =
      w.sent ++ acceptedWrites (o :: os) ((w.step o).1 :: (Writer.run (w.step o).2 os).1)
    rw [writer_run_spec os (w.step o).2]
    cases o with
    | write x =>
      by_cases hc : w.closed = true
      · rw [show w.step (.write x) = (.oserror, w) from if_pos hc]
        rfl
      · rw [show w.step (.write x) = (.ok, { w with sent := w.sent ++ [x] }) from if_neg hc]
        exact List.append_assoc _ _ _
    | flush => rfl
    | close => rfl
    | channelClosed => rfl

end ChannelFile
end ExecnetVerif
