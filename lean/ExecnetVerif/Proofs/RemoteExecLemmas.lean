import ExecnetVerif.Model.RemoteExec
namespace ExecnetVerif.RemoteExec

theorem lowestFreeFrom_spec (t : Nat → Resource) :
    ∀ fuel i, (∀ n, i + fuel ≤ n → t n = .closed) → t (lowestFreeFrom t fuel i) = .closed := by
  intro fuel
  induction fuel with
  | zero => intro i h; exact h i (by omega)
  | succ k ih =>
    intro i h
    simp only [lowestFreeFrom]
    split
    · assumption
    · exact ih (i + 1) (fun n hn => h n (by omega))

theorem Fds.lowestFree_closed (s : Fds) (h : s.WF) : s.get s.lowestFree = .closed :=
  lowestFreeFrom_spec s.get s.size 0 (fun n hn => h n (by omega))

theorem Fds.set_WF (s : Fds) (h : s.WF) (k : Nat) (v : Resource) : (s.set k v).WF := by
  intro n hn
  simp only [Fds.set] at hn ⊢
  have h1 : s.size ≤ n := by omega
  have h2 : n ≠ k := by omega
  simp [upd, h2, h n h1]

theorem Fds.close_WF (s : Fds) (h : s.WF) (k : Nat) : (s.close k).WF := by
  intro n hn
  simp only [Fds.close] at hn ⊢
  simp only [upd]
  split
  · rfl
  · exact h n hn

@[simp] theorem Fds.set_get (s : Fds) (k : Nat) (v : Resource) (n : Nat) :
    (s.set k v).get n = if n = k then v else s.get n := rfl

@[simp] theorem Fds.close_get (s : Fds) (k : Nat) (n : Nat) :
    (s.close k).get n = if n = k then .closed else s.get n := rfl

@[simp] theorem Fds.dup2_get (s : Fds) (a b : Nat) (n : Nat) :
    (s.dup2 a b).get n = if n = b then s.get a else s.get n := rfl

/-- `init_popen_io` spelled out with named intermediate tables -/
theorem initPopenIO_eq (s : Fds) :
    initPopenIO s =
      let a := s.lowestFree
      let s1 := s.set a (s.get 0)
      let f1 := s1.lowestFree
      let s4 := ((s1.set f1 .devnullR).dup2 f1 0).close f1
      let b := s4.lowestFree
      let s5 := s4.set b (s4.get 1)
      let f2 := s5.lowestFree
      let s8 := ((s5.set f2 .devnullW).dup2 f2 1).close f2
      { fds := s8, protoIn := a, protoOut := b, sysStdin := 0, sysStdout := 1 } := rfl

/-- one redirection round of `init_popen_io`: keep what descriptor `k` refers to on a fresh
descriptor, then point `k` at `dev` through a temporary descriptor that is closed again -/
def redirect (s : Fds) (k : Nat) (dev : Resource) : Fds × Nat :=
  let a := s.lowestFree
  let s1 := s.set a (s.get k)
  let f := s1.lowestFree
  (((s1.set f dev).dup2 f k).close f, a)

theorem initPopenIO_redirect (s : Fds) :
    initPopenIO s =
      { fds := (redirect (redirect s 0 .devnullR).1 1 .devnullW).1,
        protoIn := (redirect s 0 .devnullR).2,
        protoOut := (redirect (redirect s 0 .devnullR).1 1 .devnullW).2,
        sysStdin := 0, sysStdout := 1 } := initPopenIO_eq s

/-- clause 2 says that the descriptor handed out was closed in `s` (take `n` to be it) -/
theorem redirect_spec (s : Fds) (hwf : s.WF) (k : Nat) (dev : Resource) (hk : s.get k ≠ .closed) :
    (redirect s k dev).1.WF
    ∧ (∀ n, s.get n ≠ .closed → (redirect s k dev).2 ≠ n)
    ∧ (redirect s k dev).1.get k = dev
    ∧ (redirect s k dev).1.get (redirect s k dev).2 = s.get k
    ∧ ∀ n, n ≠ k → n ≠ (redirect s k dev).2 → (redirect s k dev).1.get n = s.get n := by
  have ha : s.get s.lowestFree = .closed := Fds.lowestFree_closed s hwf
  have hak : s.lowestFree ≠ k := fun h => hk (h ▸ ha)
  have hwf1 : (s.set s.lowestFree (s.get k)).WF := Fds.set_WF s hwf _ _
  have hf := Fds.lowestFree_closed _ hwf1
  generalize hfdef : (s.set s.lowestFree (s.get k)).lowestFree = f at hf
  have hfa : f ≠ s.lowestFree := by
    intro h; rw [h] at hf; simp at hf; exact hk hf
  have hfk : f ≠ k := by
    intro h; rw [h] at hf; simp [Ne.symm hak] at hf; exact hk hf
  have hsf : s.get f = .closed := by simpa [hfa] using hf
  simp only [redirect, hfdef]
  refine ⟨?_, fun n hn e => hn (e ▸ ha), ?_, ?_, ?_⟩
  · exact Fds.close_WF _ (Fds.set_WF _ (Fds.set_WF _ hwf1 _ _) _ _) _
  · simp [Ne.symm hfk]
  · simp [Ne.symm hfa, hak]
  · intro n hnk hna
    by_cases hnf : n = f
    · subst hnf; simp [hsf]
    · simp [hnf, hnk, hna]

theorem _root_.ExecnetVerif.ite_eq_iff {α : Type} {c : Prop} [Decidable c] {a b x : α} :
    (if c then a else b) = x ↔ (c ∧ a = x) ∨ (¬c ∧ b = x) := by
  split <;> simp [*]

theorem usedGlobals_eq_nil (bi : List String) (f : FuncInfo) :
    usedGlobals bi f = [] ↔ ∀ n ∈ f.names, n ∈ f.varnames ∨ n ∈ bi := by
  simp [usedGlobals, List.filter_eq_nil_iff, Decidable.or_iff_not_imp_left]

/-- the final `match` as one more `if`: with `ite_eq_iff`, `simp` reads off which inputs give which result -/
theorem remoteExecCheck_eq (bi : List String) (f : FuncInfo) :
    remoteExecCheck bi f =
      if f.name = "<lambda>" then .error .lambda
      else if f.args.head? ≠ some "channel" then .error .firstArg
      else if f.hasClosure then .error .closure
      else if !f.hasSource then .error .noSource
      else if usedGlobals bi f = [] then .ok () else .error (.globals (usedGlobals bi f)) := by
  unfold remoteExecCheck
  cases usedGlobals bi f <;> rfl

theorem remoteExec_cases (bi : List String) (g : Gw) (src : Source) (kw : List (PyVal × PyVal)) :
    (∃ e, remoteExec bi g src kw = (g, .error e))
    ∨ remoteExec bi g src kw = ({ g with count := g.count + 2, channels := g.count :: g.channels }, .error .dump)
    ∨ ∃ b, remoteExec bi g src kw =
        ({ count := g.count + 2, channels := g.count :: g.channels, wire := g.wire ++ [(g.count, b)] }, .ok g.count) := by
  unfold remoteExec
  cases prepare bi src with
  | error e => exact Or.inl ⟨e, rfl⟩
  | ok t =>
    obtain ⟨text, file, call⟩ := t
    by_cases hc : call = none ∧ kw ≠ []
    · exact Or.inl ⟨.type, by simp [hc]⟩
    · cases hd : encodeInternal (payload text file call kw) with
      | error d => exact Or.inr (Or.inl (by simp [hc, hd]))
      | ok b => exact Or.inr (Or.inr ⟨b, by simp [hc, hd]⟩)

theorem _root_.Except.eq_ok_of_toOption {ε α : Type} {x : Except ε α} {a : α} (h : x.toOption = some a) : x = .ok a := by
  cases x <;> simp_all [Except.toOption]

theorem shippedLines_length (f : FuncInfo) :
    (shippedLines f).length = f.firstlineno - 1 + f.srcLines.length := by
  simp [shippedLines]

theorem _root_.List.getElem?_of_eq_take_drop {α : Type} (file : List α) (d n : Nat) (src : List α)
    (h : src = (file.drop d).take n) (k : Nat) (hk : k < src.length) : src[k]? = file[d + k]? := by
  subst h
  rw [List.getElem?_take_of_lt (by rw [List.length_take] at hk; omega), List.getElem?_drop]

end ExecnetVerif.RemoteExec
