/-
Invariant of the concurrent makegateway model (`Model/MakeGatewayConc.lean`) for the configuration
"reserve before the try, error path releases" and its preservation by every operation.
-/
import ExecnetVerif.Model.MakeGatewayConc
namespace ExecnetVerif.MakeGatewayConc

structure Inv (w : W) : Prop where
  /-- a call in flight holds the reservation of its id -/
  held : ∀ c id, (c, id) ∈ w.inflight → id ∈ w.reserved
  /-- a reserved id is not a member's id -/
  fresh : ∀ id, id ∈ w.reserved → id ∉ w.members
  /-- no two calls in flight for one id -/
  uniq : ∀ c id c', (c, id) ∈ w.inflight → (c', id) ∈ w.inflight → c = c'
  /-- every reservation belongs to a call in flight (no reservation is ever leaked) -/
  owned : ∀ id, id ∈ w.reserved → ∃ c, (c, id) ∈ w.inflight
  /-- one entry per call -/
  cuniq : ∀ c id id', (c, id) ∈ w.inflight → (c, id') ∈ w.inflight → id = id'
  rnodup : w.reserved.Nodup
  mnodup : w.members.Nodup
  /-- every process the group created is a member's process: nothing unknown to the group -/
  procs : w.procs = w.members
  noOrphans : w.orphans = []

theorem inv_init : Inv init := by
  constructor <;> simp [init]

theorem not_taken {w : W} {id : Nat} (h : ¬taken w id = true) : id ∉ w.reserved ∧ id ∉ w.members := by
  simpa [taken] using h

theorem inv_reserve {w : W} (h : Inv w) (c id : Nat) (ctr : Nat) (hr : id ∉ w.reserved) (hm : id ∉ w.members)
    (hno : ∀ i, (c, i) ∉ w.inflight) :
    Inv { w with counter := ctr, reserved := id :: w.reserved, inflight := (c, id) :: w.inflight } :=
  { h with
    held := by have := h.held; grind
    fresh := by have := h.fresh; grind
    -- a second call holding `id` would have it reserved (`held`), against `hr`
    uniq := by have := h.uniq; have := h.held; grind
    owned := by have := h.owned; grind
    cuniq := by have := h.cuniq; grind
    rnodup := List.nodup_cons.2 ⟨hr, h.rnodup⟩ }

theorem find_mem {w : W} {c c' id : Nat} (hf : w.inflight.find? (·.1 == c) = some (c', id)) :
    (c, id) ∈ w.inflight := by
  have h1 := List.mem_of_find?_eq_some hf
  have h2 := List.find?_some hf
  simp at h2
  subst h2
  exact h1

theorem find_of_mem {w : W} (h : Inv w) {c id : Nat} (hin : (c, id) ∈ w.inflight) :
    w.inflight.find? (·.1 == c) = some (c, id) := by
  cases hf : w.inflight.find? (·.1 == c) with
  | none => simpa using List.find?_eq_none.mp hf (c, id) hin
  | some p =>
    obtain ⟨c', id'⟩ := p
    obtain rfl : c' = c := by simpa using List.find?_some hf
    rw [h.cuniq _ _ _ hin (find_mem hf)]

theorem Inv.not_member {w : W} (h : Inv w) {c id : Nat} (hin : (c, id) ∈ w.inflight) : id ∉ w.members :=
  h.fresh id (h.held _ _ hin)

theorem inv_fail {w : W} (h : Inv w) (c id : Nat) (hin : (c, id) ∈ w.inflight) :
    Inv { w with inflight := w.inflight.filter (·.1 != c), reserved := w.reserved.erase id } :=
  { h with
    held := by have := h.held; have := h.uniq; grind
    fresh := fun id' hmem => h.fresh id' (List.mem_of_mem_erase hmem)
    uniq := fun _ _ _ h1 h2 => h.uniq _ _ _ (List.mem_filter.1 h1).1 (List.mem_filter.1 h2).1
    -- a reserved `id' ≠ id` has an owner `(c', id')`, and `c' ≠ c` since call `c` has one id (`cuniq`): the owner
    -- survives the filter; `rnodup` is what makes `erase` remove `id` altogether
    owned := by have := h.owned; have := h.cuniq; have := h.rnodup; grind
    cuniq := fun _ _ _ h1 h2 => h.cuniq _ _ _ (List.mem_filter.1 h1).1 (List.mem_filter.1 h2).1
    rnodup := h.rnodup.erase id }

theorem inv_addMember {w : W} (h : Inv w) (id : Nat) (hr : id ∉ w.reserved) (hm : id ∉ w.members) :
    Inv { w with procs := w.procs ++ [id], members := w.members ++ [id] } :=
  { h with
    fresh := fun id' hmem => by
      simp only [List.mem_append, List.mem_singleton, not_or]
      exact ⟨h.fresh id' hmem, fun e => hr (e ▸ hmem)⟩
    mnodup := (List.perm_append_singleton id _).symm.nodup (List.nodup_cons.2 ⟨hm, h.mnodup⟩)
    procs := by show w.procs ++ [id] = w.members ++ [id]; rw [h.procs] }

theorem inv_step {w : W} (h : Inv w) (op : Op) : Inv (step good w op).2 := by
  cases op with
  | «begin» c req =>
    simp only [step]
    split
    · exact h
    · rename_i hc
      have hno : ∀ i, (c, i) ∉ w.inflight := fun i hi => hc (List.any_eq_true.2 ⟨_, hi, by simp⟩)
      cases req with
      | none =>
        simp only
        split
        · exact { h with }
        · rename_i ht
          have ⟨hr, hm⟩ := not_taken ht
          exact inv_reserve h c w.counter (w.counter + 1) hr hm hno
      | some id =>
        simp only
        split
        · simpa [good] using h
        · rename_i ht
          have ⟨hr, hm⟩ := not_taken ht
          exact inv_reserve h c id w.counter hr hm hno
  | finish c fault =>
    simp only [step]
    split
    · exact h
    · rename_i c' id hf
      have hin := find_mem hf
      split
      · simpa [release, good] using inv_fail h c id hin
      · -- `_register`: give the reservation back as the error path does, then add the member
        have hnm := h.not_member hin
        simpa [hnm] using inv_addMember (inv_fail h c id hin) id (List.Nodup.not_mem_erase h.rnodup) hnm

theorem inv_run (w : W) (h : Inv w) (ops : List Op) : Inv (run good w ops).2 := by
  induction ops generalizing w with
  | nil => simpa [run] using h
  | cons op ops ih =>
    simp only [run]
    exact ih _ (inv_step h op)

end ExecnetVerif.MakeGatewayConc
