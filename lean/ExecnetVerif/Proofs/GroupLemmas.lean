/-
The inductive invariant of id reservation/registration over all
schedules of the micro-steps of `Model/Group.lean`.
-/
import ExecnetVerif.Model.Group
import Std.Data.String.ToNat
namespace ExecnetVerif.Group

theorem autoId_inj {m n : Nat} (h : autoId m = autoId n) : m = n := by
  simp only [autoId, List.cons.injEq, true_and] at h
  exact Nat.repr_injective (String.toList_injective h)

/-- thread program counter `pc` is inside makegateway with id `i` -/
def holds (pc : Pc) (i : Id) : Prop := pc = .reserved i ∨ pc = .created i

theorem not_holds_idle (i : Id) : ¬ holds .idle i := by simp [holds]

theorem holds_reserved {i j : Id} : holds (.reserved i) j ↔ i = j := by simp [holds]

theorem holds_created {i j : Id} : holds (.created i) j ↔ i = j := by simp [holds]

structure Inv (g : State) : Prop where
  nodup : (g.liveIds ++ g.reserved).Nodup
  held : ∀ t i, holds (g.pcs t) i → i ∈ g.reserved
  excl : ∀ t u i, holds (g.pcs t) i → holds (g.pcs u) i → t = u
  autosNodup : g.autos.Nodup
  autosLt : ∀ a ∈ g.autos, ∃ n, n < g.counter ∧ a = autoId n
  objNodup : (g.live.map (·.obj)).Nodup
  objLt : ∀ w ∈ g.live, w.obj < g.serial

theorem inv_init : Inv init := by
  refine ⟨by simp [init, State.liveIds], ?_, ?_, by simp [init], by simp [init], by simp [init],
    by simp [init]⟩
  · intro t i h; exact absurd h (not_holds_idle i)
  · intro t u i h; exact absurd h (not_holds_idle i)

theorem taken_iff {g : State} {i : Id} : g.taken i = true ↔ i ∈ g.reserved ∨ i ∈ g.liveIds := by
  simp [State.taken]

theorem taken_false {g : State} {i : Id} (h : g.taken i = false) : i ∉ g.reserved ∧ i ∉ g.liveIds :=
  not_or.1 fun hm => Bool.false_ne_true (h ▸ taken_iff.2 hm)

@[simp] theorem setPc_pcs (g : State) (t : Nat) (pc : Pc) (u : Nat) :
    (setPc g t pc).pcs u = if u = t then pc else g.pcs u := rfl
@[simp] theorem setPc_live (g : State) (t : Nat) (pc : Pc) : (setPc g t pc).live = g.live := rfl
@[simp] theorem setPc_liveIds (g : State) (t : Nat) (pc : Pc) : (setPc g t pc).liveIds = g.liveIds := rfl
@[simp] theorem setPc_reserved (g : State) (t : Nat) (pc : Pc) : (setPc g t pc).reserved = g.reserved := rfl
@[simp] theorem setPc_autos (g : State) (t : Nat) (pc : Pc) : (setPc g t pc).autos = g.autos := rfl
@[simp] theorem setPc_counter (g : State) (t : Nat) (pc : Pc) : (setPc g t pc).counter = g.counter := rfl
@[simp] theorem setPc_serial (g : State) (t : Nat) (pc : Pc) : (setPc g t pc).serial = g.serial := rfl

theorem nodup_erase_right {A R : List Id} (i : Id) (h : (A ++ R).Nodup) : (A ++ R.erase i).Nodup :=
  List.Nodup.sublist (List.Sublist.append (List.Sublist.refl A) (List.erase_sublist)) h

theorem nodup_move {A R : List Id} {i : Id} (hi : i ∈ R) (h : (A ++ R).Nodup) :
    ((A ++ [i]) ++ R.erase i).Nodup := by
  have hp : (A ++ R).Perm ((A ++ [i]) ++ R.erase i) := by
    rw [List.append_assoc]
    exact List.Perm.append_left A (List.perm_cons_erase hi)
  exact hp.nodup h

/-- for a thread about to register: the ValueError branch of `_register` is unreachable from
`makegateway` -/
theorem created_not_live {g : State} (h : Inv g) (t : Nat) (i : Id) (hpc : holds (g.pcs t) i) :
    g.liveIds.contains i = false := by
  have hm := h.held t i hpc
  have := h.nodup
  rw [List.nodup_append] at this
  have hd := this.2.2
  simp only [List.contains_eq_mem, decide_eq_false_iff_not]
  intro hl
  exact hd i hl i hm rfl

/-! ### the three independent parts of `Inv`, over plain variables: a step that does not write a
component passes its part on unchanged -/

structure IdsInv (L R : List Id) (pcs : Nat → Pc) : Prop where
  nodup : (L ++ R).Nodup
  held : ∀ t i, holds (pcs t) i → i ∈ R
  excl : ∀ t u i, holds (pcs t) i → holds (pcs u) i → t = u

structure AutosInv (A : List Id) (c : Nat) : Prop where
  nodup : A.Nodup
  lt : ∀ a ∈ A, ∃ n, n < c ∧ a = autoId n

structure ObjsInv (W : List Gw) (s : Nat) : Prop where
  nodup : (W.map (·.obj)).Nodup
  lt : ∀ w ∈ W, w.obj < s

theorem inv_iff {g : State} : Inv g ↔
    IdsInv g.liveIds g.reserved g.pcs ∧ AutosInv g.autos g.counter ∧ ObjsInv g.live g.serial :=
  ⟨fun h => ⟨⟨h.nodup, h.held, h.excl⟩, ⟨h.autosNodup, h.autosLt⟩, ⟨h.objNodup, h.objLt⟩⟩,
   fun ⟨⟨a, b, c⟩, ⟨d, e⟩, ⟨f, k⟩⟩ => ⟨a, b, c, d, e, f, k⟩⟩

theorem find?_key_of_nodup {α β : Type} [BEq β] [LawfulBEq β] (f : α → β) : ∀ (l : List α), (l.map f).Nodup →
    ∀ w ∈ l, l.find? (fun x => f x == f w) = some w
  | [], _, _, hw => nomatch hw
  | a :: r, hnd, w, hw => by
    simp only [List.map_cons, List.nodup_cons] at hnd
    rcases List.mem_cons.1 hw with rfl | hw
    · simp
    · have hne : f a ≠ f w := fun e => hnd.1 (e ▸ List.mem_map.2 ⟨w, hw, rfl⟩)
      simp [hne, find?_key_of_nodup f r hnd.2 w hw]

theorem nodup_snoc {α : Type} {l : List α} {a : α} (h : l.Nodup) (ha : a ∉ l) : (l ++ [a]).Nodup := by
  simpa [List.nodup_append, h] using fun x hx (e : x = a) => ha (e ▸ hx)

theorem AutosInv.bump {A : List Id} {c : Nat} (h : AutosInv A c) : AutosInv A (c + 1) :=
  ⟨h.nodup, fun a ha => let ⟨n, hn, he⟩ := h.lt a ha; ⟨n, by omega, he⟩⟩

theorem AutosInv.fresh {A : List Id} {c : Nat} (h : AutosInv A c) : autoId c ∉ A := by
  intro hm
  obtain ⟨n, hn, he⟩ := h.lt _ hm
  have := autoId_inj he
  omega

theorem AutosInv.push {A : List Id} {c : Nat} (h : AutosInv A c) :
    AutosInv (A ++ [autoId c]) (c + 1) := by
  refine ⟨nodup_snoc h.nodup h.fresh, fun a ha => ?_⟩
  simp only [List.mem_append, List.mem_singleton] at ha
  rcases ha with ha | rfl
  · obtain ⟨n, hn, he⟩ := h.lt a ha; exact ⟨n, by omega, he⟩
  · exact ⟨c, by omega, rfl⟩

theorem ObjsInv.push {W : List Gw} {s : Nat} (h : ObjsInv W s) (i : Id) :
    ObjsInv (W ++ [⟨i, s⟩]) (s + 1) := by
  refine ⟨?_, fun w hw => ?_⟩
  · rw [List.map_append]
    refine nodup_snoc h.nodup (fun hm => ?_)
    obtain ⟨w, hw, he⟩ := List.mem_map.1 hm
    have := h.lt w hw
    have he' : w.obj = s := he
    omega
  · simp only [List.mem_append, List.mem_singleton] at hw
    rcases hw with hw | rfl
    · have := h.lt w hw; omega
    · exact Nat.lt_succ_self _

theorem ObjsInv.sublist {W W' : List Gw} {s : Nat} (h : ObjsInv W s) (hs : W'.Sublist W) :
    ObjsInv W' s :=
  ⟨h.nodup.sublist (hs.map _), fun w hw => h.lt w (hs.subset hw)⟩

/-- the one place where "the program counter changed only at `t`" is argued: the new counter holds
only ids of the new reserved list that no other thread holds; what the others hold stays reserved -/
theorem IdsInv.setPc {L R L' R' : List Id} {pcs : Nat → Pc} (h : IdsInv L R pcs) (t : Nat) (pc : Pc)
    (hnd : (L' ++ R').Nodup)
    (hnew : ∀ j, holds pc j → j ∈ R' ∧ ∀ u, u ≠ t → ¬ holds (pcs u) j)
    (hold : ∀ u j, u ≠ t → holds (pcs u) j → j ∈ R') :
    IdsInv L' R' (fun u => if u = t then pc else pcs u) := by
  refine ⟨hnd, fun u j hj => ?_, fun u v j hu hv => ?_⟩
  · by_cases hu : u = t
    · simp only [hu, if_true] at hj; exact (hnew j hj).1
    · simp only [hu, if_false] at hj; exact hold u j hu hj
  · by_cases hut : u = t <;> by_cases hvt : v = t
    · rw [hut, hvt]
    · simp only [hut, hvt, if_true, if_false] at hu hv; exact absurd hv ((hnew j hu).2 v hvt)
    · simp only [hut, hvt, if_true, if_false] at hu hv; exact absurd hu ((hnew j hv).2 u hut)
    · simp only [hut, hvt, if_false] at hu hv; exact h.excl u v j hu hv

theorem IdsInv.reserve {L R : List Id} {pcs : Nat → Pc} (h : IdsInv L R pcs) (t : Nat) {i : Id}
    (hL : i ∉ L) (hR : i ∉ R) :
    IdsInv L (R ++ [i]) (fun u => if u = t then .reserved i else pcs u) :=
  h.setPc t _ (by rw [← List.append_assoc]; exact nodup_snoc h.nodup (by simp [hL, hR]))
    (fun j hj => by
      obtain rfl := holds_reserved.1 hj
      exact ⟨by simp, fun u _ hu => hR (h.held u _ hu)⟩)
    (fun u j _ hj => List.mem_append_left _ (h.held u j hj))

/-- releasing the reservation held by thread `t` (the live ids may change as long as they stay
apart from what is still reserved) -/
theorem IdsInv.release {L R L' : List Id} {pcs : Nat → Pc} (h : IdsInv L R pcs) (t : Nat) {i : Id}
    (hpc : holds (pcs t) i) (hnd : (L' ++ R.erase i).Nodup) :
    IdsInv L' (R.erase i) (fun u => if u = t then .idle else pcs u) :=
  h.setPc t _ hnd (fun j hj => absurd hj (not_holds_idle j))
    (fun u j hu hj => (List.mem_erase_of_ne (by rintro rfl; exact hu (h.excl u t j hj hpc))).2
      (h.held u j hj))

theorem inv_step {g : State} (h : Inv g) (t : Nat) (op : Op) : Inv (step g t op).1 := by
  obtain ⟨hi, ha, ho⟩ := inv_iff.1 h
  cases op with
  | allocAuto =>
    simp only [step]; split
    · split
      · exact inv_iff.2 ⟨hi, ha.bump, ho⟩
      · exact inv_iff.2 ⟨hi, ha.push, ho⟩
    · exact h
  | beginAuto =>
    simp only [step]; split
    · split
      · exact inv_iff.2 ⟨hi, ha.bump, ho⟩
      · next htk =>
        obtain ⟨hr, hl⟩ := taken_false (Bool.not_eq_true _ ▸ htk)
        exact inv_iff.2 ⟨hi.reserve t hl hr, ha.push, ho⟩
    · exact h
  | beginExplicit i =>
    simp only [step]; split
    · split
      · exact h
      · next htk =>
        obtain ⟨hr, hl⟩ := taken_false (Bool.not_eq_true _ ▸ htk)
        exact inv_iff.2 ⟨hi.reserve t hl hr, ha, ho⟩
    · exact h
  | createOk =>
    simp only [step]; split
    · next i hpc =>
      refine inv_iff.2 ⟨hi.setPc t _ hi.nodup (fun j hj => ?_) (fun u j _ hj => hi.held u j hj), ha, ho⟩
      obtain rfl := holds_created.1 hj
      exact ⟨hi.held t _ (Or.inl hpc), fun u hu hh => hu (hi.excl u t _ hh (Or.inl hpc))⟩
    · exact h
  | createFail =>
    simp only [step]; split
    · next i hpc =>
      exact inv_iff.2 ⟨hi.release t (Or.inl hpc) (nodup_erase_right i hi.nodup), ha, ho⟩
    · exact h
  | register =>
    simp only [step]; split
    · next i hpc =>
      have hh : holds (g.pcs t) i := Or.inr hpc
      rw [created_not_live h t i (Or.inr hpc), if_neg Bool.false_ne_true]
      refine inv_iff.2 ⟨hi.release t hh ?_, ha, ho.push i⟩
      simpa [State.liveIds] using nodup_move (hi.held t i hh) hi.nodup
    · exact h
  | unregister o =>
    simp only [step]; split
    · have hsub : (g.live.filter (·.obj != o)).Sublist g.live := List.filter_sublist
      exact inv_iff.2 ⟨⟨hi.nodup.sublist ((hsub.map _).append (.refl _)), hi.held, hi.excl⟩, ha,
        ho.sublist hsub⟩
    · exact h

theorem inv_run : ∀ (sched : List (Nat × Op)) (g : State), Inv g → Inv (run g sched).1
  | [], _, h => h
  | (t, op) :: rest, g, h => by
    simp only [run]
    exact inv_run rest _ (inv_step h t op)

theorem inv_reachable {g : State} (h : Reachable g) : Inv g := by
  obtain ⟨sched, rfl⟩ := h
  exact inv_run sched init inv_init

end ExecnetVerif.Group
