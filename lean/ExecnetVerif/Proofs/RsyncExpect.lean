/-
The leaves of the closed form of `syncWith` are what the property demands (decision
table + content phase + link phase at one file / link position), hence the closed form is
`expect` / `expectSent`; then what `expect` says path by path, and its idempotence.
-/
import ExecnetVerif.Proofs.RsyncPhases
import ExecnetVerif.Proofs.PathLemmas
namespace ExecnetVerif.Rsync
open ExecnetVerif.Path

theorem classify_spec (sourcedir destdir t : RawPath) :
    resolveLink destdir (classify sourcedir t) = expectLink sourcedir destdir t := by
  unfold resolveLink classify expectLink
  by_cases habs : isAbs t = true
  · simp only [habs, if_true]
    have hc := relComps_cases (normAbs sourcedir) (normAbs t)
    cases h : stripPrefix? (normAbs sourcedir) (normAbs t) with
    | none =>
      rw [h] at hc
      obtain ⟨l, hl⟩ := hc
      simp [hl, isInside_dotdot]
    | some rest =>
      rw [h] at hc
      rw [hc.2]
      cases rest with
      | nil => simp [isInside]
      | cons c cs =>
        have hne : c ≠ ".." := by
          intro e
          have := normAbs_no_dotdot t
          rw [hc.1, e] at this
          simp at this
        simp [isInside_cons cs hne]
  · simp [habs]

/-- one file position: content travels unless the target has a file of the same size with the same
mtime (quick check) or the same content (checksum); the position ends as the source file — given
the quick check is sound there -/
theorem leaf_file (b : Blob) (m t : Nat) (tgt : Tree) :
    leafSent (.file b m t) tgt = expectSent (.file b m t) tgt ∧
    (quickCheckSound (.file b m t) tgt → leaf2 (.file b m t) tgt = .file b m t) := by
  cases tgt with
  | file b' m' t' =>
    simp only [leafSent, leaf2, leafReq, leaf1, decideFile, expectSent, quickCheckSound]
    by_cases hs : b.size = b'.size
    · by_cases ht : t = t'
      · -- quick check hit: nothing is requested, the mode is corrected in the structure phase
        subst ht
        refine ⟨by by_cases hm : m = m' <;> simp [hs, hm], fun hq => ?_⟩
        obtain rfl := hq hs rfl
        by_cases hm : m = m' <;> simp [hm]
      · -- requested with checksum: content travels unless it is the same
        by_cases hb : b' = b
        · subst hb; simp [ht, sentL, toUp, senderData, getPath, run, updPath, writeFile]
        · have hb' : ¬ b = b' := fun e => hb e.symm
          simp [hs, ht, hb, hb', sentL, toUp, senderData, getPath, run, updPath, writeFile]
    · simp [hs, sentL, toUp, senderData, getPath, run, updPath, writeFile]
  | _ =>
    simp [leafSent, leaf2, leafReq, leaf1, decideFile, expectSent, sentL, toUp, senderData, getPath, run, updPath,
      writeFile]

theorem leaf3_link (cl : RawPath → Bool × List String) (dest : RawPath) (tg : RawPath) (tgt : Tree) :
    leaf3 cl dest (.link tg) tgt = .link (resolveLink dest (cl tg)) := by
  simp [leaf3, leafLink, leaf2, leafReq, run, updPath]

theorem expectL_eq (sd dest : RawPath) (del : Bool) (tes : Entries) : ∀ (es : List (Name × Tree)),
    expectL sd dest del es tes = es.map (fun e => (e.1, expect sd dest del e.2 (lookup e.1 tes)))
  | [] => rfl
  | (n, s) :: r => by simp only [expectL, List.map_cons, expectL_eq sd dest del tes r]

theorem quickCheckSoundL_iff (tes : Entries) : ∀ (es : List (Name × Tree)),
    quickCheckSoundL es tes ↔ ∀ e ∈ es, quickCheckSound e.2 (lookup e.1 tes)
  | [] => by simp [quickCheckSoundL]
  | (n, s) :: r => by simp only [quickCheckSoundL, List.forall_mem_cons, quickCheckSoundL_iff tes r]

theorem skel_eq_expect (sd dest : RawPath) (del : Bool) : ∀ (src : Tree),
    wfTree src → ∀ tgt, quickCheckSound src tgt →
      skel (leaf3 (classify sd) dest) del src tgt = expect sd dest del src tgt := by
  refine Tree.induct_wf ?_ ?_ ?_
  · intro b m t tgt hq
    simp only [skel, expect]
    exact (leaf_file b m t tgt).2 hq
  · intro m es _ ih tgt hq
    simp only [quickCheckSound, quickCheckSoundL_iff] at hq
    simp only [skel, expect, others, skelL_eq, expectL_eq]
    rw [List.map_congr_left (fun e he => by rw [(ih e he).2 _ (hq e he)])]
  · intro tg tgt _
    simp only [skel, expect, leaf3_link, classify_spec]

theorem expectSentL_eq (tes : Entries) : ∀ (es : List (Name × Tree)),
    expectSentL es tes = es.flatMap (fun e => (expectSent e.2 (lookup e.1 tes)).map (e.1 :: ·))
  | [] => rfl
  | (n, s) :: r => by simp only [expectSentL, List.flatMap_cons, expectSentL_eq tes r]

theorem collect_eq_expectSent : ∀ (src tgt : Tree),
    collect (fun n p => n :: p) leafSent src tgt = expectSent src tgt := by
  refine Tree.induct_mem ?_ ?_ ?_ ?_
  · intro b m t tgt; exact (leaf_file b m t tgt).1
  · intro m es ih tgt
    simp only [collect, expectSent, collectL_eq, expectSentL_eq]
    exact flatMap_congr_mem (fun e he => by rw [ih e he])
  · intro tg tgt; simp [collect, leafSent, leafReq, expectSent]
  · intro tgt
    simp only [collect, leafSent, leafReq, expectSent]
    cases (decideFile none 0 0 tgt).2 <;> simp [sentL, senderData, getPath]

theorem sync_eq_expect (sd : Sender) (src : Tree) (tg : Target) (hw : wfTree src) :
    (quickCheckSound src tg.tree →
      (sync sd src tg).tree = expect sd.sourcedir tg.destdir tg.delete src tg.tree) ∧
    (sync sd src tg).sent = expectSent src tg.tree := by
  have h := syncWith_closed (classify sd.sourcedir) src tg hw
  unfold sync
  rw [h.1, h.2, collect_eq_expectSent]
  exact ⟨fun hq => skel_eq_expect sd.sourcedir tg.destdir tg.delete src hw tg.tree hq, rfl⟩

theorem names_expectL (sd dest : RawPath) (del : Bool) (tes : Entries) (es : List (Name × Tree)) :
    names (expectL sd dest del es tes) = es.map Prod.fst := by
  simp [expectL_eq, names, Function.comp_def]

theorem expect_dir (sd dest : RawPath) (del : Bool) (m : Nat) (es : List (Name × Tree)) (tgt : Tree) :
    expect sd dest del (.dir m es) tgt = .dir (m ||| 0o700)
      (expectL sd dest del es (entriesOf tgt) ++ others del (es.map Prod.fst) (entriesOf tgt)) := by
  simp [expect, others]

theorem lookup_expect_dir (sd dest : RawPath) (del : Bool) (m : Nat) (es : List (Name × Tree)) (tgt : Tree)
    (n : Name) :
    lookup n (entriesOf (expect sd dest del (.dir m es) tgt)) =
      if n ∈ es.map Prod.fst then expect sd dest del (lookup n es) (lookup n (entriesOf tgt))
      else if del then .absent else lookup n (entriesOf tgt) := by
  rw [expect_dir, entriesOf]
  by_cases hn : n ∈ es.map Prod.fst
  · rw [lookup_append_left (by rw [names_expectL]; exact hn), expectL_eq,
      lookup_map (fun k s => expect sd dest del s (lookup k (entriesOf tgt))),
      if_pos (show n ∈ names es from hn), if_pos hn]
  · rw [lookup_append_right (by rw [names_expectL]; exact hn), if_neg hn]
    cases del with
    | true => rfl
    | false => exact lookup_filter_notin hn _

theorem others_expect (del : Bool) (sd dest : RawPath) (es : List (Name × Tree)) (tes : Entries) :
    others del (es.map Prod.fst)
      (expectL sd dest del es tes ++ others del (es.map Prod.fst) tes) = others del (es.map Prod.fst) tes := by
  cases del with
  | true => simp [others]
  | false =>
    simp only [others, Bool.false_eq_true, if_false, List.filter_append, List.filter_filter, Bool.and_self]
    have : (expectL sd dest false es tes).filter (fun e => decide (e.1 ∉ es.map Prod.fst)) = [] := by
      rw [List.filter_eq_nil_iff]
      intro e he
      have : e.1 ∈ names (expectL sd dest false es tes) := List.mem_map.mpr ⟨e, he, rfl⟩
      rw [names_expectL] at this
      simp [this]
    rw [this]; simp

theorem expect_fixed (sd dest : RawPath) (del : Bool) : ∀ (src : Tree),
    wfTree src → ∀ tgt,
      quickCheckSound src (expect sd dest del src tgt) ∧
      expectSent src (expect sd dest del src tgt) = [] ∧
      expect sd dest del src (expect sd dest del src tgt) = expect sd dest del src tgt := by
  refine Tree.induct_wf ?_ ?_ ?_
  · intro b m t tgt
    simp [expect, quickCheckSound, expectSent]
  · intro m es _ ih tgt
    have hlook : ∀ e ∈ es, lookup e.1 (entriesOf (expect sd dest del (.dir m es) tgt)) =
        expect sd dest del e.2 (lookup e.1 (entriesOf tgt)) := fun e he => by
      rw [lookup_expect_dir, if_pos (List.mem_map.2 ⟨e, he, rfl⟩), (ih e he).1]
    refine ⟨?_, ?_, ?_⟩
    · simp only [quickCheckSound, quickCheckSoundL_iff]
      intro e he; rw [hlook e he]; exact ((ih e he).2 _).1
    · simp only [expectSent, expectSentL_eq, List.flatMap_eq_nil_iff]
      intro e he; rw [hlook e he, ((ih e he).2 _).2.1]; rfl
    · rw [expect_dir sd dest del m es (expect sd dest del (.dir m es) tgt), expectL_eq,
        List.map_congr_left (fun e he => by rw [hlook e he, ((ih e he).2 _).2.2]), ← expectL_eq,
        expect_dir sd dest del m es tgt, entriesOf, others_expect]
  · intro tg tgt
    simp [expect, quickCheckSound, expectSent]

theorem expect_delete_subset (sd dest : RawPath) : ∀ (src : Tree), wfTree src → ∀ (p : List Name) (tgt : Tree),
    getPath p (expect sd dest true src tgt) ≠ .absent → getPath p src ≠ .absent := by
  refine Tree.induct_wf ?_ ?_ ?_
  · intro b m t p tgt h
    cases p with
    | nil => exact Tree.noConfusion
    | cons n q => exact absurd rfl h
  · intro m es _ ih p tgt h
    cases p with
    | nil => exact Tree.noConfusion
    | cons n q =>
      rw [getPath_cons, lookup_expect_dir] at h
      by_cases hn : n ∈ es.map Prod.fst
      · obtain ⟨e, he, rfl⟩ := List.mem_map.1 hn
        rw [if_pos hn, (ih e he).1] at h
        rw [getPath_cons]
        show getPath q (lookup e.1 es) ≠ .absent
        rw [(ih e he).1]
        exact (ih e he).2 q _ h
      · simp [hn, getPath_absent] at h
  · intro l p tgt h
    cases p with
    | nil => exact Tree.noConfusion
    | cons n q => exact absurd rfl h

theorem getPath_expect (sd dest : RawPath) (del : Bool) : ∀ (p : List Name) (src tgt : Tree),
    getPath p src ≠ .absent →
    getPath p (expect sd dest del src tgt) = expect sd dest del (getPath p src) (getPath p tgt)
  | [], _, _, _ => rfl
  | n :: q, src, tgt, h => by
    cases src with
    | file b m t => exact absurd rfl h
    | link l => exact absurd rfl h
    | absent => exact absurd rfl h
    | dir m es =>
      simp only [getPath] at h
      by_cases hn : n ∈ es.map Prod.fst
      · rw [getPath_cons, lookup_expect_dir, if_pos hn, getPath_expect sd dest del q _ _ h, ← getPath_cons]
        rfl
      · rw [lookup_of_not_mem (by simpa [names] using hn), getPath_absent] at h
        exact absurd rfl h

theorem expect_nodelete_untouched (sd dest : RawPath) (n : Name) (q : List Name) (src tgt : Tree) {m : Nat}
    {es : List (Name × Tree)} (hsrc : getPath q src = .dir m es) (hn : n ∉ es.map Prod.fst) :
    getPath (q ++ [n]) (expect sd dest false src tgt) = getPath (q ++ [n]) tgt := by
  rw [getPath_append, getPath_expect sd dest false q src tgt (by rw [hsrc]; exact Tree.noConfusion), hsrc,
    getPath_append, getPath_cons, getPath_cons, lookup_expect_dir, if_neg hn]
  rfl

end ExecnetVerif.Rsync
