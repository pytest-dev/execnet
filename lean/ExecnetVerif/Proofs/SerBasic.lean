import ExecnetVerif.Model.Serializer
namespace ExecnetVerif

theorem run_nil (cfg : Cfg) (st) : run cfg [] st = .error .eof := by
  rw [run]

theorem loads_version (cfg : Cfg) (b : UInt8) (rest : Bytes) (h : b ≠ dumpVersion) :
    loads cfg (b :: rest) = .error .dataFormat := by
  simp [loads, h]

theorem loads_dumpVersion (cfg : Cfg) (rest : Bytes) : loads cfg (dumpVersion :: rest) = run cfg rest [] := rfl

/-- whatever `loads` returns beyond "ended early" and "bad version", the main loop returned it -/
theorem loads_run {cfg : Cfg} {bs : Bytes} {r : Except LoadErr PyVal} (h : loads cfg bs = r)
    (h1 : r ≠ .error .eof) (h2 : r ≠ .error .dataFormat) : ∃ rest, run cfg rest [] = r := by
  cases bs with
  | nil => exact absurd h.symm h1
  | cons b rest =>
    by_cases hb : b = dumpVersion
    · subst hb; exact ⟨rest, h⟩
    · exact absurd ((loads_version cfg b rest hb).symm.trans h).symm h2

theorem run_cons (cfg : Cfg) (op : UInt8) (rest : Bytes) (st : List PyVal) :
    run cfg (op :: rest) st = match step cfg op rest st with
      | .cont r s => run cfg r s
      | .stop s => finish s
      | .err e => .error e := by
  rw [run]; split <;> simp only [*]

theorem run_cont {cfg : Cfg} {op : UInt8} {rest st r' st'}
    (h : step cfg op rest st = .cont r' st') : run cfg (op :: rest) st = run cfg r' st' := by
  rw [run_cons, h]

theorem run_stop {cfg : Cfg} {op : UInt8} {rest st st'}
    (h : step cfg op rest st = .stop st') :
    run cfg (op :: rest) st = finish st' := by
  rw [run_cons, h]

theorem run_err {cfg : Cfg} {op : UInt8} {rest st e}
    (h : step cfg op rest st = .err e) : run cfg (op :: rest) st = .error e := by
  rw [run_cons, h]

section
variable (cfg : Cfg) (rest : Bytes) (st : List PyVal)

theorem step_NONE : step cfg opNONE rest st = .cont rest (.none :: st) := rfl
theorem step_TRUE : step cfg opTRUE rest st = .cont rest (.bool true :: st) := rfl
theorem step_FALSE : step cfg opFALSE rest st = .cont rest (.bool false :: st) := rfl
theorem step_INT : step cfg opINT rest st = rdI32 rest fun i r => .cont r (.int i :: st) := rfl
theorem step_LONG : step cfg opLONG rest st = rdI32 rest fun i r => .cont r (.int i :: st) := rfl
theorem step_LONGINT : step cfg opLONGINT rest st = rdBytes rest fun b r =>
    match parseInt b with
    | some i => .cont r (.int i :: st)
    | Option.none => .err .dataFormat := rfl
theorem step_LONGLONG : step cfg opLONGLONG rest st = rdBytes rest fun b r =>
    match parseInt b with
    | some i => .cont r (.int i :: st)
    | Option.none => .err .dataFormat := rfl
theorem step_FLOAT : step cfg opFLOAT rest st =
    match rd8 rest with
    | some (b, r) => .cont r (.float b :: st)
    | Option.none => .err .eof := rfl
theorem step_COMPLEX : step cfg opCOMPLEX rest st =
    match rd8 rest with
    | some (re, r1) =>
      match rd8 r1 with
      | some (im, r2) => .cont r2 (.complex re im :: st)
      | Option.none => .err .eof
    | Option.none => .err .eof := rfl
theorem step_BYTES : step cfg opBYTES rest st = rdBytes rest fun b r => .cont r (.bytes b :: st) := rfl
theorem step_PY3STRING : step cfg opPY3STRING rest st = rdBytes rest fun b r =>
    if cfg.py3str_as_py2str then .cont r (.bytes b :: st)
    else match utf8Decode b with
      | some s => .cont r (.str s :: st)
      | Option.none => .err .dataFormat := rfl
theorem step_PY2STRING : step cfg opPY2STRING rest st = rdBytes rest fun b r =>
    if cfg.py2str_as_py3str then .cont r (.str (latin1Decode b) :: st)
    else .cont r (.bytes b :: st) := rfl
theorem step_UNICODE : step cfg opUNICODE rest st = rdBytes rest fun b r =>
    match utf8Decode b with
    | some s => .cont r (.str s :: st)
    | Option.none => .err .dataFormat := rfl
theorem step_NEWLIST : step cfg opNEWLIST rest st =
    rdI32 rest fun n r =>
      if memExceeded cfg n.toNat then .err .memory else .cont r (.list (List.replicate n.toNat .none) :: st) := rfl
theorem step_NEWDICT : step cfg opNEWDICT rest st = .cont rest (.dict [] :: st) := rfl
theorem step_SETITEM : step cfg opSETITEM rest st = setItem rest st := rfl
theorem step_BUILDTUPLE : step cfg opBUILDTUPLE rest st =
    rdI32 rest fun n r => buildColl .tuple n r st := rfl
theorem step_SET : step cfg opSET rest st = rdI32 rest fun n r => buildColl .set n r st := rfl
theorem step_FROZENSET : step cfg opFROZENSET rest st =
    rdI32 rest fun n r => buildColl .frozenset n r st := rfl
theorem step_CHANNEL : step cfg opCHANNEL rest st = rdI32 rest fun id r =>
    if cfg.hasFactory then .cont r (.channel id :: st) else .err .dataFormat := rfl
theorem step_STOP : step cfg opSTOP rest st = .stop st := rfl
end

theorem step_stop_stack {cfg : Cfg} {op rest st s} (h : step cfg op rest st = .stop s) : s = st := by
  revert h
  apply step_elim (P := fun x => x = .stop s → s = st)
  case stop => intro h; cases h; rfl
  all_goals simp

theorem step_memory {cfg : Cfg} {op rest st} (h : step cfg op rest st = .err .memory) :
    cfg.memLimit ≠ none := by
  revert h
  apply step_elim (P := fun x => x = .err .memory → cfg.memLimit ≠ none)
  case mem => intro hm _; exact hm
  all_goals simp

/-- the same outcome with `t` appended to the unread input -/
def Res.app (t : Bytes) : Res → Res
  | .cont r s => .cont (r ++ t) s
  | x => x

/-- The loader reads strictly left to right: appending `t` to the input changes what an opcode does
only if it ran out of input. -/
theorem step_app (cfg : Cfg) (op : UInt8) (rest t : Bytes) (st : List PyVal) :
    step cfg op rest st = .err .eof ∨ step cfg op (rest ++ t) st = (step cfg op rest st).app t :=
  step_elim₂ (P := fun a b => a = .err .eof ∨ b = a.app t) cfg op rest t st
    (fun _ _ _ _ => .inr rfl) (.inr rfl) (fun _ => .inl rfl) (.inr rfl) (fun _ => .inr rfl)

theorem run_memory (cfg : Cfg) (input : Bytes) (st : List PyVal)
    (h : run cfg input st = .error .memory) : cfg.memLimit ≠ none := by
  fun_induction run cfg input st with
  | case1 st => cases h
  | case2 st op rest r s hs ih => exact ih h
  | case3 st op rest s hs => unfold finish at h; split at h <;> cases h
  | case4 st op rest e hs => cases h; exact step_memory hs

theorem run_app (cfg : Cfg) (p t : Bytes) (st : List PyVal) :
    run cfg p st = .error .eof ∨ run cfg (p ++ t) st = run cfg p st := by
  fun_induction run cfg p st with
  | case1 st => exact .inl rfl
  | case2 st op rest r s hs ih =>
    rcases step_app cfg op rest t st with h | h
    · cases hs.symm.trans h
    · rw [List.cons_append, run_cons, h, hs]; exact ih
  | case3 st op rest s hs =>
    rcases step_app cfg op rest t st with h | h
    · cases hs.symm.trans h
    · rw [List.cons_append, run_cons, h, hs]; exact .inr rfl
  | case4 st op rest e hs =>
    rcases step_app cfg op rest t st with h | h
    · cases hs.symm.trans h; exact .inl rfl
    · rw [List.cons_append, run_cons, h, hs]; exact .inr rfl

theorem run_eof_of_prefix {cfg : Cfg} {p l : Bytes} {st : List PyVal} (hp : p <+: l)
    (h : run cfg l st = .error .eof) : run cfg p st = .error .eof := by
  obtain ⟨t, rfl⟩ := hp
  rcases run_app cfg p t st with h' | h'
  · exact h'
  · rw [← h', h]

end ExecnetVerif
