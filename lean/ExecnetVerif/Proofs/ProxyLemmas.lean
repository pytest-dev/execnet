import ExecnetVerif.Model.Proxy
import ExecnetVerif.Proofs.FrameLemmas
namespace ExecnetVerif

theorem pxFill_enough (n : Int) (buf : Bytes) (items : List Bytes) (h : ¬ (buf.length : Int) < n) :
    pxFill n buf items = (buf, items) := by
  cases items with
  | nil => rfl
  | cons it rest => simp [pxFill, h]

theorem pySliceIdx_nat (k len : Nat) : pySliceIdx (k : Int) len = min k len := by
  simp [pySliceIdx]

/-- `read(n)` with `n` bytes in the buffer already: no receive.  At a literal the left side is
`pxRead ↑9 …`, which `rw` / `simp` do not find in `pxRead 9 …`: use the instance as a term (`pxRead_boot`). -/
theorem pxRead_enough (n : Nat) (buf : Bytes) (items : List Bytes) (h : n ≤ buf.length) :
    pxRead n ⟨some buf, items⟩ = (buf.take n, ⟨some (buf.drop n), items⟩) := by
  have hfill : pxFill n buf items = (buf, items) := pxFill_enough _ _ _ (by omega)
  simp only [pxRead, hfill, pySliceIdx_nat, Nat.min_eq_left h]

/-- `read(n)` when the next item completes the `n` bytes: one receive -/
theorem pxRead_next (n : Nat) (buf it : Bytes) (rest : List Bytes) (h1 : buf.length < n)
    (h2 : n ≤ (buf ++ it).length) :
    pxRead n ⟨some buf, it :: rest⟩ = ((buf ++ it).take n, ⟨some ((buf ++ it).drop n), rest⟩) := by
  have hfill : pxFill n buf (it :: rest) = (buf ++ it, rest) := by
    rw [pxFill, if_pos (by omega)]
    exact pxFill_enough _ _ _ (by omega)
  simp only [pxRead, hfill, pySliceIdx_nat, Nat.min_eq_left h2]

/-- `read(9)` at a frame boundary, next item = one whole frame: exactly the header -/
theorem pxRead_header (m : Msg) (rest : List Bytes) :
    pxRead 9 ⟨some [], encodeMsg m :: rest⟩ =
      (packHeader m.typ m.cid m.data.length, ⟨some m.data, rest⟩) := by
  have hlen := packHeader_length m.typ m.cid m.data.length
  have := pxRead_next 9 [] (encodeMsg m) rest (by simp) (by simp [encodeMsg_length, frameLen])
  rw [List.nil_append, encodeMsg, ← hlen, List.take_left, List.drop_left] at this
  rw [← this, hlen]; rfl

/-- `read(len)` with exactly the payload in the buffer: the payload, buffer empty afterwards -/
theorem pxRead_payload (data : Bytes) (rest : List Bytes) :
    pxRead (data.length : Int) ⟨some data, rest⟩ = (data, ⟨some [], rest⟩) := by
  rw [pxRead_enough _ _ _ (Nat.le_refl _), List.take_length, List.drop_length]

theorem pxRead_exhausted (n : Int) :
    pxRead n ⟨some [], []⟩ = ([], ⟨some [], []⟩) := by
  simp [pxRead, pxFill]

theorem decodeItemsFuel_frames : ∀ (ms : List Msg) (fuel : Nat), wfMsgs ms → ms.length < fuel →
    decodeItemsFuel fuel ⟨some [], ms.map encodeMsg⟩ = (ms, .eof) := by
  intro ms
  induction ms with
  | nil =>
    intro fuel _ hf
    cases fuel with
    | zero => exact absurd hf (Nat.not_lt_zero _)
    | succ f => simp [decodeItemsFuel, pxRead_exhausted]
  | cons m t ih =>
    intro fuel h hf
    cases fuel with
    | zero => exact absurd hf (Nat.not_lt_zero _)
    | succ f =>
      obtain ⟨h1, h2, h3⟩ := h m (by simp)
      simp only [decodeItemsFuel, List.map_cons, pxRead_header, packHeader_length,
        unpackHeader_packHeader _ _ _ h1 h2 h3, pxRead_payload]
      rw [ih f (fun x hx => h x (by simp [hx])) (by simp at hf; omega)]
      simp

theorem decodeItems_frames (ms : List Msg) (h : wfMsgs ms) :
    decodeItems ⟨some [], ms.map encodeMsg⟩ = (ms, .eof) := by
  -- a frame has at least its 9 header bytes, so the fuel `total + 1` outnumbers the frames
  have hlen : ms.length ≤ totalLen (ms.map encodeMsg) := by
    clear h
    induction ms with
    | nil => simp [totalLen]
    | cons m t ih =>
      simp only [totalLen, List.map_cons, List.sum_cons, encodeMsg_length, List.length_cons] at ih ⊢
      unfold frameLen; omega
  unfold decodeItems
  apply decodeItemsFuel_frames ms _ h
  simp only [PxReader.total]
  omega

/-- the master's `io.read(1)` during bootstrap takes the forwarded boot byte and nothing else -/
theorem pxRead_boot (items : List Bytes) :
    pxRead 1 ⟨none, [bootByte] :: items⟩ = ([bootByte], ⟨some [], items⟩) :=
  -- with no buffer yet `pxRead` takes the first item for it: by definition the case `some [bootByte]`
  pxRead_enough 1 [bootByte] items (Nat.le_refl _)

/-- through the proxy the master sees the boot byte and then exactly the messages a direct reader of the
sub's output would decode, whatever the sub wrote and wherever it stopped: the forwarder passes on whole
frames only (`decodeStream_wf`: each can be written again), and the master ends with "empty read" -/
theorem proxyUpStream_eq (bs : Bytes) :
    proxyUpStream (bootByte :: bs) = ([bootByte], (decodeStream bs).1, .eof) := by
  simp only [proxyUpStream, forwarderItems, if_true, pxRead_boot, decodeItems_frames _ (decodeStream_wf bs)]

theorem forwarderItemsChunked_eq (chunks : List Bytes) (hne : ∀ c ∈ chunks, c ≠ []) :
    forwarderItemsChunked chunks = forwarderItems chunks.flatten := by
  unfold forwarderItemsChunked
  cases hf : chunks.flatten with
  | nil =>
    have := readExact_short chunks 1 [] hne (by rw [hf]; simp)
    simp [this, forwarderItems]
  | cons b rest =>
    obtain ⟨chunks1, he, hf1, hn1⟩ := readExact_ok chunks 1 [] hne (by rw [hf]; simp)
    rw [hf] at he hf1
    simp only [he, List.nil_append, List.take_succ_cons, List.take_zero, forwarderItems,
      List.cons.injEq, and_true]
    rw [decodeStreamChunked_eq chunks1 hn1, hf1]
    simp

end ExecnetVerif
