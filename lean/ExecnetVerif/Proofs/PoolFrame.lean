/-
How `Inv` is preserved, by kind of update.  The state after a step is a structure literal, so `{ h with .. }`
carries over every clause that reads no written field; the clauses after `with` are the ones the update touches.
A step of client `i` that writes only `i`'s own fields has to establish one entry of the table `UOk`.
-/
import ExecnetVerif.Proofs.PoolInv
namespace ExecnetVerif.Pool
variable {c : Config} {s : State}

/-- what `Inv` says about a client thread in state `p`, besides whether it holds the lock -/
def UOk (c : Config) (s : State) (i : Uid) : UPhase → Prop
  | .spawnHold t => s.phase t = .unused ∧
      (c.gated = true → ∀ u, s.phase u ≠ .unused → bodyEnded (s.phase u) = true)
  | .spawnWait t m => (s.phase t = .pending ∧ s.mbox = some m ∧ s.ready = true ∧ m ≠ t) ∧
      (c.primary = true ∧ c.mto = true) ∧ (c.gated = true → bodyEnded (s.phase m) = true)
  | .getRet t r => r = true → bodyEnded (s.phase t) = true
  | .waHold _ => WaOk
  | .waWait _ => WaOk ∧ (s.wev i = false → s.wreg i = true ∧ s.running ≠ []) ∧
      (s.wev i = true → ∀ t, t ∈ s.wsnap i → s.phase t = .done)
  | .waRet r => WaOk ∧ (r = true → ∀ t, t ∈ s.wsnap i → s.phase t = .done)
  | _ => True
where
  WaOk : Prop := (∀ t, t ∈ s.wsnap i → s.phase t ≠ .unused) ∧
      (s.wshut i = true → s.shut = true ∧ ∀ t, s.phase t ≠ .unused → t ∈ s.wsnap i)

theorem UOk.wa {i : Uid} : ∀ {p : UPhase}, UOk c s i p → inWa p = true → UOk.WaOk s i
  | .waHold _, h, _ => h
  | .waWait _, h, _ => h.1
  | .waRet _, h, _ => h.1

theorem Inv.uok (h : Inv c s) (i : Uid) : UOk c s i (s.us i) := by
  have hwa (hp : inWa (s.us i) = true) : UOk.WaOk s i := ⟨h.wsn i hp, h.wsh i hp⟩
  cases hp : s.us i with
  | spawnHold t => exact ⟨h.shold i t hp, fun hg => h.gateH hg i t hp⟩
  | spawnWait t m => exact ⟨h.swait i t m hp, h.swaitC i t m hp, fun hg => h.gateW hg i t m hp⟩
  | getRet t r => intro hr; exact h.getR i t (hr ▸ hp)
  | waHold b => exact hwa (hp ▸ rfl)
  | waWait b => exact ⟨hwa (hp ▸ rfl), h.wlost i b hp, h.wtrueW i b hp⟩
  | waRet r => exact ⟨hwa (hp ▸ rfl), fun hr => h.wtrueR i (hr ▸ hp)⟩
  | _ => trivial

theorem UOk.congr_wa {j : Uid} {p : UPhase} {wreg' wev' : Uid → Bool} {wsnap' : Uid → List TaskId}
    {wshut' : Uid → Bool} (h : UOk c s j p) (hreg : wreg' j = s.wreg j) (hev : wev' j = s.wev j)
    (hsn : wsnap' j = s.wsnap j) (hws : wshut' j = s.wshut j) :
    UOk c { s with wreg := wreg', wev := wev', wsnap := wsnap', wshut := wshut' } j p := by
  cases p <;> simp only [UOk, UOk.WaOk, hreg, hev, hsn, hws] at h ⊢ <;> exact h

theorem Inv.uok_of (h : Inv c s) {i : Uid} {p : UPhase} (hi : s.us i = p) : UOk c s i p := hi ▸ h.uok i

/-- `Inv` from the entries of `UOk`, for any new `us`; `Inv.setUser` is the case `upd s.us i q` -/
theorem Inv.ofUOk (h : Inv c s) {lock' : Option Agent} {us' : Uid → UPhase}
    {wreg' wev' : Uid → Bool} {wsnap' : Uid → List TaskId} {wshut' : Uid → Bool}
    (hlk : ∀ a, (∀ j, a ≠ .user j) → (lock' = some a ↔ s.lock = some a))
    (hl : ∀ j, lock' = some (.user j) ↔ holdsLock (us' j) = true)
    (hu : ∀ j, UOk c { s with wreg := wreg', wev := wev', wsnap := wsnap', wshut := wshut' } j (us' j))
    (hp : ∀ t, s.phase t = .pending → ∃ j m, us' j = .spawnWait t m) :
    Inv c { s with lock := lock', us := us', wreg := wreg', wev := wev', wsnap := wsnap', wshut := wshut' } :=
  have hP := hlk .primary (fun _ => Agent.noConfusion)
  { h with
    lockU := hl
    lockW := fun t => (hlk (.worker t) (fun _ => Agent.noConfusion)).trans (h.lockW t)
    lockP1 := fun t ht => hP.2 (h.lockP1 t ht)
    lockP2 := fun t ht hr => hP.2 (h.lockP2 t ht hr)
    lockP3 := fun hl => h.lockP3 (hP.1 hl)
    swait := fun j t m (hj : us' j = .spawnWait t m) => (hj ▸ hu j : UOk c _ j (.spawnWait t m)).1
    swaitC := fun j t m (hj : us' j = .spawnWait t m) => (hj ▸ hu j : UOk c _ j (.spawnWait t m)).2.1
    gateW := fun hg j t m (hj : us' j = .spawnWait t m) => (hj ▸ hu j : UOk c _ j (.spawnWait t m)).2.2 hg
    shold := fun j t (hj : us' j = .spawnHold t) => (hj ▸ hu j : UOk c _ j (.spawnHold t)).1
    gateH := fun hg j t (hj : us' j = .spawnHold t) => (hj ▸ hu j : UOk c _ j (.spawnHold t)).2 hg
    getR := fun j t (hj : us' j = .getRet t true) => (hj ▸ hu j : UOk c _ j (.getRet t true)) rfl
    wlost := fun j b (hj : us' j = .waWait b) => (hj ▸ hu j : UOk c _ j (.waWait b)).2.1
    wtrueW := fun j b (hj : us' j = .waWait b) => (hj ▸ hu j : UOk c _ j (.waWait b)).2.2
    wtrueR := fun j (hj : us' j = .waRet true) => (hj ▸ hu j : UOk c _ j (.waRet true)).2 rfl
    wsn := fun j hj => ((hu j).wa hj).1
    wsh := fun j hj => ((hu j).wa hj).2
    pend := hp }

variable {i : Uid} {p q : UPhase}

/-- `hw`: the task of a spawner blocked in `waitfinish()` would lose its holder -/
theorem Inv.setUser (h : Inv c s) (hi : s.us i = p) (hw : ∀ t m, p ≠ .spawnWait t m) {lock' : Option Agent}
    {wreg' wev' : Uid → Bool} {wsnap' : Uid → List TaskId} {wshut' : Uid → Bool}
    (hlock : (lock' = s.lock ∧ holdsLock q = holdsLock p) ∨
      (s.lock = none ∧ lock' = some (.user i) ∧ holdsLock q = true) ∨
      (holdsLock p = true ∧ lock' = none ∧ holdsLock q = false))
    (hfr : ∀ j, j ≠ i → wreg' j = s.wreg j ∧ wev' j = s.wev j ∧ wsnap' j = s.wsnap j ∧ wshut' j = s.wshut j)
    (hq : UOk c { s with wreg := wreg', wev := wev', wsnap := wsnap', wshut := wshut' } i q) :
    Inv c { s with lock := lock', us := upd s.us i q, wreg := wreg', wev := wev', wsnap := wsnap',
                   wshut := wshut' } := by
  subst hi
  have hi := h.lockU i
  refine h.ofUOk (fun a ha => ?_)
    (upd_forall (P := fun j p => lock' = some (Agent.user j) ↔ holdsLock p = true) ?_ fun j hj => ?_)
    (upd_forall hq fun j hj => (h.uok j).congr_wa (hfr j hj).1 (hfr j hj).2.1 (hfr j hj).2.2.1 (hfr j hj).2.2.2)
    fun t ht => ?_
  -- mutual exclusion: `lockU` for `i` and for `j` decides who holds the old and the new lock
  · have := ha i; grind
  · grind
  · have := h.lockU j; grind
  · obtain ⟨j, m, hj⟩ := h.pend t ht
    exact ⟨j, m, by rw [upd_of_ne _ _ (by rintro rfl; exact hw t m hj), hj]⟩

theorem Inv.userMove (h : Inv c s) (hi : s.us i = p) (hp : holdsLock p = false) (hl : holdsLock q = false)
    (hq : UOk c s i q) : Inv c { s with us := upd s.us i q } :=
  h.setUser hi (fun t m e => by rw [e] at hp; cases hp) (.inl ⟨rfl, hl.trans hp.symm⟩)
    (fun _ _ => ⟨rfl, rfl, rfl, rfl⟩) hq

theorem Inv.userAcquire (h : Inv c s) (hi : s.us i = p) (hp : holdsLock p = false) (hn : s.lock = none)
    (hl : holdsLock q = true) (hq : UOk c s i q) : Inv c { s with lock := some (.user i), us := upd s.us i q } :=
  h.setUser hi (fun t m e => by rw [e] at hp; cases hp) (.inr (.inl ⟨hn, rfl, hl⟩))
    (fun _ _ => ⟨rfl, rfl, rfl, rfl⟩) hq

theorem Inv.userRelease (h : Inv c s) (hi : s.us i = p) (hw : ∀ t m, p ≠ .spawnWait t m)
    (hp : holdsLock p = true) (hl : holdsLock q = false) (hq : UOk c s i q) :
    Inv c { s with lock := none, us := upd s.us i q } :=
  h.setUser hi hw (.inr (.inr ⟨hp, rfl, hl⟩)) (fun _ _ => ⟨rfl, rfl, rfl, rfl⟩) hq

/-- `spawn` accepts task `t` -/
inductive Accept (c : Config) (s : State) (t : TaskId) : TPhase → Bool → Option TaskId → Bool → UPhase → Prop
  | mailbox : c.primary = true → s.ready = false → Accept c s t .inMbox true (some t) true (.spawnRel t)
  /-- behind the mailbox task `m` (main_thread_only): the spawner will wait for `m` with the lock held -/
  | behind (m : TaskId) : c.primary = true → c.mto = true → s.ready = true → s.mbox = some m →
      Accept c s t .pending true s.mbox s.ready (.spawnWait t m)
  | worker : (c.primary = true → s.ready = true) → Accept c s t .created false s.mbox s.ready (.spawnRel t)

attribute [grind cases] Accept

theorem Inv.accept (h : Inv c s) {i : Uid} {t : TaskId} (hi : s.us i = .spawnHold t) (hsh : s.shut = false)
    {q : TPhase} {b : Bool} {mb : Option TaskId} {rd : Bool} {p : UPhase} (hq : Accept c s t q b mb rd p) :
    Inv c { s with running := t :: s.running, accepted := s.accepted ++ [t], mbox := mb, ready := rd,
                   phase := upd s.phase t q, prim := upd s.prim t b, us := upd s.us i p } := by
  have ht := h.shold i t hi
  have hl := (h.lockU i).2 (by rw [hi]; rfl)
  have hmb : s.mbox ≠ some t := fun e => h.mbAcc t e ht
  exact
  { h with
    acc := by grind [h.acc]
    run := by grind [h.run, live]
    runND := by grind [h.run, h.runND, live]
    sta := by grind [h.sta, begun]
    fin := by grind [h.fin, bodyEnded]
    lockU := by grind [h.lockU, holdsLock]
    lockW := by grind [h.lockW]
    lockP2 := by grind [h.lockP2]
    lockP3 := by grind [h.lockP3]
    primRun := by grind [h.primRun, primExec]
    primChk := by grind [h.primChk]
    primOf := by grind [h.primOf]
    workOf := by grind [h.workOf]
    noPrim := by grind [h.noPrim]
    mbAcc := by grind [h.mbAcc]
    inMb := by grind [h.inMb]
    rdFresh := by grind [h.rdFresh, h.notReady]
    rdReady := by grind [h.rdReady]
    busy := by grind [h.busy]
    notReady := by grind [h.notReady]
    mbNone := by grind [h.mbNone]
    -- by `hsh` the primary thread has not left its loop, or there is none and `t` goes to a worker thread
    leftInv := by grind [h.leftInv]
    swait := by grind [h.swait]
    pend := fun u hu => by
      by_cases hut : u = t
      · subst hut; obtain ⟨m, hm⟩ : ∃ m, p = .spawnWait u m := by grind
        exact ⟨i, m, by rw [hm]; exact upd_self ..⟩
      · obtain ⟨j, m, hj⟩ := h.pend u (by grind)
        exact ⟨j, m, by grind⟩
    swaitC := by grind [h.swaitC]
    shold := fun j u => by have := h.shold j u; have := h.lockU j; grind [holdsLock]
    getR := fun j u => by have := h.getR j u; grind [bodyEnded]
    wlost := by grind [h.wlost]
    wsn := by grind [h.wsn, inWa]
    wtrueW := by grind [h.wtrueW, h.wsn, inWa]
    wtrueR := by grind [h.wtrueR, h.wsn, inWa]
    wsh := by grind [h.wsh, inWa]  -- by `hsh` no snapshot saw `_shuttingdown`, so none has to contain `t`
    gateH := fun hg j u => by have := h.gateH hg j u; have := h.lockU j; grind [holdsLock]
    gateW := fun hg j u m => by
      have := h.gateW hg j u m; have := h.gateH hg i t hi; have := h.swait j u m; have := h.lockU j
      grind [h.mbAcc, holdsLock, bodyEnded] }

/-- `_try_send_to_primary_thread` after `waitfinish()` has returned: `t` takes `m`'s place in the mailbox -/
theorem Inv.handOver (h : Inv c s) {i : Uid} {t m : TaskId} (hi : s.us i = .spawnWait t m)
    (hr : resultReady s m = true) :
    Inv c { s with mbox := some t, ready := true, phase := upd s.phase t .inMbox,
                   us := upd s.us i (.spawnRel t) } := by
  obtain ⟨hpt, hmb, hrd, hmt⟩ := h.swait i t m hi
  have hl := (h.lockU i).2 (by rw [hi]; rfl)
  have hm := resultReady_iff.1 hr
  exact
  { h with
    acc := by grind [h.acc]
    run := by grind [h.run, live]
    sta := by grind [h.sta, begun]
    fin := by grind [h.fin, bodyEnded]
    lockU := fun j => by have := h.lockU j; grind [holdsLock]
    lockW := by grind [h.lockW]
    lockP2 := by grind [h.lockP2]
    lockP3 := by grind [h.lockP3]
    primRun := by grind [h.primRun, primExec]
    primChk := by grind [h.primChk]
    primOf := by grind [h.primOf]
    workOf := by grind [h.workOf]
    noPrim := fun hp => by have := h.noPrim hp; grind
    mbAcc := by grind
    inMb := by grind [h.inMb]
    -- the primary thread is not about to read the mailbox: it would find `m`, which is past `inMbox`
    rdFresh := fun hp _ u hu => by have := h.rdFresh hp hrd m hmb; grind
    rdReady := fun _ => rfl
    busy := by grind [h.busy]
    notReady := nofun
    mbNone := nofun
    leftInv := by grind [h.leftInv]
    swait := fun j u m' hj => by have := h.swait j u m'; have := h.lockU j; grind [holdsLock]
    pend := fun u hu => by
      obtain ⟨j, m', hj⟩ := h.pend u (by grind)
      have := h.lockU j; exact ⟨j, m', by grind [holdsLock]⟩
    swaitC := by grind [h.swaitC]
    shold := fun j u => by have := h.shold j u; have := h.lockU j; grind [holdsLock]
    getR := fun j u => by have := h.getR j u; grind [bodyEnded]
    wlost := by grind [h.wlost]
    wsn := by grind [h.wsn, inWa]
    wtrueW := by grind [h.wtrueW]
    wtrueR := by grind [h.wtrueR]
    wsh := by grind [h.wsh, inWa]
    gateH := fun hg j u => by have := h.gateH hg j u; have := h.lockU j; grind [holdsLock]
    gateW := fun hg j u m' => by have := h.gateW hg j u m'; have := h.lockU j; grind [holdsLock] }

/-- task `t` moves one phase on without leaving `_running` -/
inductive Advance (s : State) (a : Agent) (t : TaskId) :
    TPhase → List TaskId → List TaskId → Option Agent → PPhase → Prop
  | read : s.pp = .readMbox → s.mbox = some t → Advance s a t .inHand s.started s.finished s.lock (.run t)
  | begin : canExec s a t = true → s.phase t = .created ∨ s.phase t = .inHand →
      Advance s a t .body (s.started ++ [t]) s.finished s.lock s.pp
  | finish : canExec s a t = true → s.phase t = .body → Advance s a t .ended s.started (s.finished ++ [t]) s.lock s.pp
  | setReady : canExec s a t = true → s.phase t = .ended → Advance s a t .resReady s.started s.finished s.lock s.pp
  | acquire : canExec s a t = true → s.phase t = .resReady → s.lock = none →
      Advance s a t .removing s.started s.finished (some a) s.pp

attribute [grind cases] Advance

theorem Inv.advance (h : Inv c s) {a : Agent} {t : TaskId} {q : TPhase} {st fi : List TaskId} {l : Option Agent}
    {pp : PPhase} (hq : Advance s a t q st fi l pp) :
    Inv c { s with phase := upd s.phase t q, started := st, finished := fi, lock := l, pp := pp } := by
  have hr := h.primRun t
  -- the only constructor-specific preparation (what `read` finds in the mailbox); a new constructor that starts
  -- from the mailbox widens its antecedent, the clauses stay
  have hin : s.pp = .readMbox → s.mbox = some t → s.phase t = .inMbox ∧ s.prim t = true ∧ s.ready = true :=
    fun hp hm => by grind [h.rdFresh, h.rdReady, h.primOf]
  exact
  { h with
    acc := by grind [h.acc]
    run := by grind [h.run, live]
    sta := by grind [h.sta, begun]
    staND := by grind [h.sta, h.staND, begun]
    fin := by grind [h.fin, bodyEnded]
    lockU := by grind [h.lockU]
    lockW := by grind [h.lockW]
    lockP1 := by grind [h.lockP1]
    lockP2 := by grind [h.lockP2]
    lockP3 := fun hl => by have := h.lockP3; grind [h.primRun, primExec]
    primRun := by grind [h.primRun, primExec]
    primChk := by grind [h.primChk]
    primOf := by grind [h.primOf]
    workOf := by grind [h.workOf]
    noPrim := by grind [h.noPrim]
    mbAcc := by grind [h.mbAcc]
    inMb := by grind [h.inMb]
    rdFresh := by grind [h.rdFresh, primExec]
    rdReady := by grind [h.rdReady]
    busy := by grind [h.busy, h.inMb, primExec]
    notReady := by grind [h.notReady]
    leftInv := by grind [h.leftInv]
    swait := fun j u m => by have := h.swait j u m; grind
    pend := fun u hu => by obtain ⟨j, m, hj⟩ := h.pend u (by grind); exact ⟨j, m, hj⟩
    shold := by grind [h.shold]
    getR := fun j u => by have := h.getR j u; grind [bodyEnded]
    wsn := by grind [h.wsn]
    wtrueW := by grind [h.wtrueW]
    wtrueR := by grind [h.wtrueR]
    wsh := by grind [h.wsh]
    gateH := fun hg j u hj v => by have := h.gateH hg j u hj v; grind [bodyEnded]
    gateW := fun hg j u m hj => by have := h.gateW hg j u m hj; grind [bodyEnded] }

/-- How the waitall events change is left open (only `wlost` and `wtrueW` read them): a caller whose event is newly
set must find `_running` empty. -/
theorem Inv.remove (h : Inv c s) {a : Agent} {t : TaskId} (hx : canExec s a t = true)
    (hp : s.phase t = .removing) {wev' wreg' : Uid → Bool}
    (hw : ∀ i b, s.us i = .waWait b → wev' i = false → wreg' i = true ∧ s.running.erase t ≠ [])
    (hw' : ∀ i b, s.us i = .waWait b → wev' i = true → s.wev i = true ∨ s.running.erase t = []) :
    Inv c { s with running := s.running.erase t, phase := upd s.phase t .done, lock := none,
                   pp := if a = .primary then PPhase.chkAcq t else s.pp, wev := wev', wreg := wreg' } := by
  have hl := h.exec_lock hx hp
  rw [canExec_iff] at hx
  have hrun : ∀ u, u ∈ s.running.erase t ↔ u ≠ t ∧ u ∈ s.running := fun u => h.runND.mem_erase_iff
  exact
  { h with
    acc := by grind [h.acc]
    run := by grind [h.run, live]
    runND := h.runND.erase t
    sta := by grind [h.sta, begun]
    fin := by grind [h.fin, bodyEnded]
    lockU := fun i => by have := h.lockU i; grind
    lockW := fun u => by have := h.lockW u; grind
    lockP1 := by grind [h.lockP1, h.lockP3]
    lockP2 := by grind [h.lockP2, h.lockP3, h.primRun, primExec]
    lockP3 := nofun
    primRun := by grind [h.primRun, primExec]
    primChk := by grind [h.primChk]
    primOf := by grind [h.primOf]
    workOf := by grind [h.workOf]
    noPrim := by grind [h.noPrim]
    mbAcc := by grind [h.mbAcc]
    inMb := by grind [h.inMb]
    rdFresh := by grind [h.rdFresh]
    rdReady := by grind [h.rdReady]
    busy := by grind [h.busy]
    notReady := by grind [h.notReady, h.busy]
    leftInv := by grind [h.leftInv]
    swait := by grind [h.swait]
    pend := by grind [h.pend]
    shold := by grind [h.shold]
    getR := by grind [h.getR, bodyEnded]
    wlost := hw
    wsn := by grind [h.wsn]
    wtrueW := fun i b hi ht u hu => by
      rcases hw' i b hi ht with he | he
      · grind [h.wtrueW]
      · -- `_running` is empty now: every other task of the snapshot had left it before
        have := h.done_of_not_running (h.wsn i (by rw [hi]; rfl) u hu); have := hrun u; grind
    wtrueR := by grind [h.wtrueR]
    wsh := by grind [h.wsh]
    gateH := by grind [h.gateH, bodyEnded]
    gateW := by grind [h.gateW, bodyEnded] }

/-- what `trigger_shutdown` does to the mailbox and its event -/
inductive Shutdown (c : Config) (s : State) : Option TaskId → Bool → Prop
  /-- repair (i) of D9: the mailbox is emptied and the event set only when the event is not set -/
  | wake : c.primary = true → s.ready = false → Shutdown c s none true
  | leave : (c.primary = true → s.ready = true) → Shutdown c s s.mbox s.ready

attribute [grind cases] Shutdown

theorem Inv.shutdown (h : Inv c s) {mb : Option TaskId} {rd : Bool} (hq : Shutdown c s mb rd) :
    Inv c { s with shut := true, mbox := mb, ready := rd } :=
  { h with
    noPrim := by grind [h.noPrim]
    mbAcc := by grind [h.mbAcc]
    inMb := by grind [h.inMb]
    rdFresh := by grind [h.rdFresh]
    rdReady := by grind [h.rdReady]
    busy := by grind [h.busy]
    notReady := by grind [h.notReady]
    mbNone := fun _ _ => rfl
    leftInv := by grind [h.leftInv]
    -- a spawner blocked in `waitfinish()` has the event set, which excludes `wake`; `leave` writes no mailbox field
    swait := by grind [h.swait]
    wsh := fun j hj hw => ⟨rfl, (h.wsh j hj hw).2⟩ }

theorem Inv.primAcquire (h : Inv c s) {t : TaskId} (hp : s.pp = .chkAcq t) (hl : s.lock = none) :
    Inv c { s with lock := some .primary, pp := .chk t } :=
  { h with
    lockU := fun i => by have := h.lockU i; grind
    lockW := fun u => by have := h.lockW u; grind
    lockP1 := fun _ _ => rfl
    lockP2 := fun _ _ _ => rfl
    lockP3 := by simp
    primRun := fun t => by have := h.primRun t; grind
    primChk := by grind [h.primChk]
    noPrim := by grind [h.noPrim]
    rdFresh := by grind
    rdReady := nofun
    busy := fun u hu => by have := h.busy u; grind
    notReady := by grind [h.notReady]
    leftInv := by grind }

/-- the primary thread's check after task `t`, under the lock -/
inductive PrimCheck (s : State) (t : TaskId) : Bool → PPhase → Prop
  | leave : s.mbox = some t → s.shut = true → PrimCheck s t s.ready .left
  | clear : s.mbox = some t → s.shut = false → PrimCheck s t false .waitReady
  /-- repair (ii) of D9: a newer task sits in the mailbox, so the thread neither leaves nor clears the event -/
  | next : s.mbox ≠ some t → PrimCheck s t s.ready .waitReady

attribute [grind cases] PrimCheck

theorem Inv.primCheck (h : Inv c s) {t : TaskId} (hp : s.pp = .chk t) {rd : Bool} {pp : PPhase}
    (hq : PrimCheck s t rd pp) :
    Inv c { s with lock := none, ready := rd, pp := pp } := by
  have hl := h.lockP1 t hp
  have hd := h.primChk t (.inr hp)
  have hb := h.busy t (.inr (.inr hp))
  have hnp : c.primary = true := by grind [h.noPrim]
  exact
  { h with
    lockU := fun i => by have := h.lockU i; grind
    lockW := fun u => by have := h.lockW u; grind
    lockP1 := by grind
    lockP2 := by grind
    lockP3 := nofun
    primRun := by grind [h.primRun]
    primChk := by grind
    noPrim := by grind
    inMb := by grind [h.inMb]
    rdFresh := by grind
    rdReady := by grind
    busy := by grind
    notReady := by grind
    mbNone := by grind [h.mbNone]
    leftInv := fun hq' => by
      refine ⟨fun u => ⟨fun hu => ?_, fun hu => ?_⟩, by grind⟩
      · have := h.inMb u hu; grind
      · -- a pending task has a spawner blocked with the lock, but the primary thread has the lock
        obtain ⟨i, m, hi⟩ := h.pend u hu; have := h.lockU i; grind [holdsLock]
    swait := fun j u m hj => by have := h.swait j u m hj; have := h.lockU j; grind [holdsLock] }

/-- the steps of the primary thread's loop that write `pp` only -/
inductive PrimLoop (s : State) : PPhase → Prop
  | wake : s.pp = .waitReady → s.ready = true → PrimLoop s .readMbox
  | leave : s.pp = .readMbox → s.mbox = none → PrimLoop s .left
  | gone : s.pp = .left → PrimLoop s .gone

attribute [grind cases] PrimLoop

theorem Inv.primLoop (h : Inv c s) {pp : PPhase} (hq : PrimLoop s pp) :
    Inv c { s with pp := pp } := by
  have hrd := h.rdReady
  have hsh := h.mbNone
  exact
  { h with
    lockP1 := by grind
    lockP2 := by grind
    lockP3 := by grind [h.lockP3]
    primRun := fun t => by have := h.primRun t; grind
    primChk := by grind
    noPrim := fun hc => by have := h.noPrim hc; grind
    rdFresh := by grind [h.rdFresh]
    rdReady := by grind
    busy := by grind
    notReady := by grind [h.leftInv]
    -- event set and mailbox empty means shutdown; then nothing is in the mailbox or behind it
    leftInv := fun _ => by
      have := h.leftInv
      refine ⟨fun t => ⟨fun ht => ?_, fun ht => ?_⟩, by grind⟩
      · have := h.inMb t ht; grind
      · obtain ⟨i, m, hi⟩ := h.pend t ht; have := h.swait i t m hi; grind }

end ExecnetVerif.Pool
