/-
`normAbs` never leaves a `..`, and `relComps` (`relpath`) from a start that is a prefix of the
path is the rest of the path, from any other start it begins with `..`.
-/
import ExecnetVerif.Model.Path
namespace ExecnetVerif.Path

theorem normStep_no_dotdot {acc : List String} (c : String) (h : ".." ∉ acc) : ".." ∉ normStep acc c := by
  unfold normStep
  split
  · exact h
  · split
    · exact fun hm => h (List.dropLast_subset _ hm)
    · rename_i h1 h2
      intro hm
      simp only [List.mem_append, List.mem_singleton] at hm
      cases hm with
      | inl hm => exact h hm
      | inr hm => exact h2 hm.symm

theorem normAbs_no_dotdot (p : RawPath) : ".." ∉ normAbs p :=
  List.foldlRecOn p normStep (motive := fun acc => ".." ∉ acc) (by simp) (fun _ h c _ => normStep_no_dotdot c h)

theorem relComps_cons (a : String) (p s : List String) : relComps (a :: p) (a :: s) = relComps p s := by
  simp [relComps, commonLen]

theorem relComps_cases : ∀ (s p : List String),
    match stripPrefix? s p with
    | some rest => p = s ++ rest ∧ relComps p s = rest
    | none => ∃ l, relComps p s = ".." :: l
  | [], p => by cases p <;> simp [stripPrefix?, relComps, commonLen]
  | a :: s, [] => ⟨_, rfl⟩
  | a :: s, b :: p => by
    by_cases hab : a = b
    · subst hab
      have ih := relComps_cases s p
      simp only [stripPrefix?, if_true, relComps_cons]
      cases h : stripPrefix? s p with
      | none => rw [h] at ih; exact ih
      | some rest => rw [h] at ih; exact ⟨by rw [ih.1, List.cons_append], ih.2⟩
    · have hba : ¬ b = a := fun e => hab e.symm
      simp only [stripPrefix?, hab, if_false]
      exact ⟨List.replicate s.length ".." ++ b :: p, by simp [relComps, commonLen, hba, List.replicate_succ]⟩

theorem isInside_dotdot (l : List String) : isInside (".." :: l) = false := by
  cases l <;> simp [isInside]

theorem isInside_cons {c : String} (cs : List String) (h : c ≠ "..") : isInside (c :: cs) = true := by
  simp [isInside, h]

end ExecnetVerif.Path
