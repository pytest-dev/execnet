/-
The inductive invariant of the `main_thread_only` gate model (`Model/ExecGate.lean`, fixed `executetask`).
-/
import ExecnetVerif.Model.ExecGate
namespace ExecnetVerif.Gate

/-- the body has begun (on the main thread) -/
def begun : EPhase → Bool
  | .running | .bodyDone _ | .closed _ | .finished _ => true
  | _ => false

/-- spawned to the pool or further -/
def pastGate : EPhase → Bool
  | .queued | .running | .bodyDone _ | .closed _ | .finished _ => true
  | _ => false

structure GInv (c : Config) (s : State) : Prop where
  -- who holds the "main thread is free" token: `complete`, the receiver after `clear()`, the queue, or the main thread
  mBusyC : s.m ≠ .idle → s.complete = false
  qC : s.queue ≠ [] → s.complete = false ∧ s.m = .idle
  qLen : s.queue.length ≤ 1
  rWokeI : ∀ k, s.r = .woke k → s.complete = true
  rClearedI : ∀ k, s.r = .cleared k → s.complete = false ∧ s.m = .idle ∧ s.queue = []
  cFalse : s.complete = false → s.m = .idle → s.queue = [] → ∃ k, s.r = .cleared k
  -- phases
  phRun : ∀ k, s.ph k = .running ↔ s.m = .running k
  phDone : ∀ k o, s.ph k = .bodyDone o ↔ s.m = .bodyDone k o
  phClosed : ∀ k o, s.ph k = .closed o ↔ s.m = .closedSt k o
  phQ : ∀ k, s.ph k = .queued ↔ k ∈ s.queue
  phGate : ∀ k, s.ph k = .atGate ↔ (s.r = .waiting k ∨ s.r = .woke k ∨ s.r = .cleared k)
  phSent : ∀ k, s.ph k = .sent ↔ k ∈ s.rq
  phUnsent : ∀ k, s.ph k = .unsent ↔ s.submitted ≤ k
  obs : ∀ k, s.closeObs k = true → isClosed (s.ph k) = true
  -- order
  rqSorted : s.rq.Pairwise (· < ·)
  mono1 : ∀ a b, a < b → s.ph a = .sent → s.ph b = .sent ∨ s.ph b = .unsent
  mono2 : ∀ a b, a < b → pastGate (s.ph b) = true → s.ph a ≠ .sent ∧ s.ph a ≠ .atGate
  mono3 : ∀ a b, a < b → begun (s.ph b) = true → s.ph a ≠ .queued
  staIff : ∀ k, k ∈ s.started ↔ begun (s.ph k) = true
  staSorted : s.started.Pairwise (· < ·)
  -- sequential submission is never refused (under `Timely`)
  seqC : ∀ k, s.seqOk k = true → ∀ j, j < k → s.closeObs j = true
  nfd : c.timely = true → ∀ k, s.seqOk k = true → s.ph k ≠ .rejected

theorem ginv_init (c : Config) : GInv c init := by
  constructor <;> simp [init, begun, pastGate, isClosed]

@[grind =] theorem upd_apply {α β : Type} [DecidableEq α] (f : α → β) (k : α) (v : β) (u : α) :
    upd f k v u = if u = k then v else f u := rfl

theorem GInv.idle_of_complete {c : Config} {s : State} (h : GInv c s) (hc : s.complete = true) :
    s.m = .idle ∧ s.queue = [] :=
  ⟨Decidable.byContradiction fun hm => (by rw [h.mBusyC hm] at hc; cases hc),
   Decidable.byContradiction fun hq => (by rw [(h.qC hq).1] at hc; cases hc)⟩

theorem GInv.queue_nil_of_busy {c : Config} {s : State} (h : GInv c s) (hm : s.m ≠ .idle) : s.queue = [] :=
  Decidable.byContradiction fun hq => hm (h.qC hq).2

theorem begun_pastGate {p : EPhase} (h : begun p = true) : pastGate p = true := by
  cases p <;> simp_all [begun, pastGate]

theorem range_all {f : Nat → Bool} {n : Nat} (h : (List.range n).all f = true) : ∀ j, j < n → f j = true :=
  fun j hj => List.all_eq_true.1 h j (List.mem_range.2 hj)

/- `ginv_step hs` expects the 22 clauses of the pre-state in the context under their field names.  No proof uses
these two tactics; they serve to explore a new clause. -/
set_option hygiene false in
macro "ginv_close" : tactic => `(tactic| first
  | assumption
  | grind [begun, pastGate, isClosed, inEpilogue, List.pairwise_append, List.pairwise_cons, List.length_append, List.length_cons, List.length_nil, List.eq_nil_iff_length_eq_zero, → begun_pastGate]
  | grind (splits := 30) [begun, pastGate, isClosed, inEpilogue, List.pairwise_append, List.pairwise_cons])

macro "ginv_step" hs:ident : tactic => `(tactic| (
  repeat' split at $hs:ident
  all_goals (first | (cases $hs:ident; done) | (cases $hs:ident; constructor <;> dsimp only [] <;> try ginv_close))))

end ExecnetVerif.Gate
