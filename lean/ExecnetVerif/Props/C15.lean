/-
C15 — Bootstrapping needs nothing installed on the other side.
The tables the theorems quantify over (`Generated.sequences`, …) are regenerated from the
source on every run, so each theorem is a statement about what the shipped code says *now*: the bounded
quantifiers below range over every import statement and every global name of every shipped text.
-/
import ExecnetVerif.Generated.Shipped
namespace ExecnetVerif
open Bootstrap

/-- what `from __main__ import …` can find on a worker that was bootstrapped over a pipe
(`python -c "import sys;exec(eval(sys.stdin.readline()))"`: the shipped text runs in `__main__`) -/
def mainOfPipeWorker : List String := mainProvides Generated.sequences "exec"

/-- what it can find on a worker started by the stand-alone socket server (the shipped text runs in a
private dict; `__main__` is `socketserver.py` itself) -/
def mainOfSocketWorker : List String := mainProvides Generated.sequences "script:socketserver"

/-- the namespaces that must be self-contained: everything except the import bootstrap, whose
`from execnet.gateway_base import …` *is* that path (see `C15_paths`: plain local popen only) -/
def shippedSequences : List Sequence := Generated.sequences.filter (·.name != "import")

/-- **C15 (closure).** For every namespace the initiator sends code into — the exec bootstrap
(`popen//python=`, `via=`, `ssh=`), the socket bootstrap, every `remote_exec(<module|function|literal>)` the
package itself issues (proxy forwarder, `installvia` socket server, rsync receiver, rinfo, chdir/nice/env) and
the stand-alone `socketserver.py` — and for every text executed there, in order:
* every import statement on the executed path (module level and inside any function; for the methods of an
  execmodel class only when a stdlib execmodel selects that class) names a standard-library module, or sits
  in a `try … except ImportError` whose handler obtains the same names from `__main__` where the exec
  bootstrap has put them (or needs none of them afterwards), or is such a handler's `from __main__ import`;
* every global name read anywhere in the text is bound by the text itself, is a builtin, was put into the
  namespace by the code that starts it (`channel`, `__name__`, `clientsock`, …), or is bound by a text
  executed earlier in the same namespace.
So no shipped text can raise ImportError/NameError for lack of execnet on the other side. -/
theorem C15_closed :
    ∀ q ∈ shippedSequences, ∀ p ∈ q.units.zipIdx,
      (∀ i ∈ p.1.imports, i.relevant →
          ImportOk Generated.stdlibModules mainOfPipeWorker p.1 i)
      ∧ (∀ n ∈ p.1.freeGlobals,
          n ∈ p.1.defined ∨ n ∈ Generated.builtinNames ∨ n ∈ q.before p.2) := by
  decide +kernel

/-- **C15 (no sibling module).** No shipped text imports `execnet…` (absolutely or relatively) except
inside a guarded `try` whose fallback `C15_closed` has checked; the only unguarded one in the whole
package's remote side is the import bootstrap. -/
theorem C15_no_sibling :
    ∀ q ∈ shippedSequences, ∀ u ∈ q.units, ∀ i ∈ u.imports,
      (i.root = "execnet" ∨ i.relative = true) → i.guarded = true := by
  decide +kernel

/-- **C15 (execmodels).** The imports `C15_closed` does not look at are exactly those inside the methods of
an execmodel class that only `get_execmodel("eventlet")` / `get_execmodel("gevent")` instantiates (outside the
property: "execmodels available in the stdlib"); every backend tag in the tables is a backend `get_execmodel`
knows.  So `thread` and `main_thread_only` workers are covered by `C15_closed` completely. -/
theorem C15_execmodels :
    (∀ q ∈ shippedSequences, ∀ u ∈ q.units, ∀ i ∈ u.imports,
        ¬ i.relevant → ∀ b ∈ i.backends, b = "eventlet" ∨ b = "gevent")
    ∧ (∀ q ∈ shippedSequences, ∀ u ∈ q.units, ∀ i ∈ u.imports,
        ∀ b ∈ i.backends, b ∈ Generated.execmodelTable.map (·.1)) :=
  ⟨by decide +kernel, by decide +kernel⟩

theorem C15_execmodels_known : stdlibExecmodels ⊆ Generated.execmodelTable.map (·.1) := by
  decide +kernel

/-- the generated selector of `gateway_bootstrap.bootstrap` is the hand-modelled function, for all 64
truthiness combinations of (popen, via, python, ssh, vagrant_ssh, socket) -/
theorem C15_paths_table (s : Spec) :
    Generated.bootstrapSelect.eval s = (bootstrapKind s).outcome
    ∧ Generated.ioSelect.eval s = (ioKind s).outcome := by
  obtain ⟨a, b, c, d, e, f⟩ := s
  revert a b c d e f
  decide +kernel

/-- **C15 (paths).** Which bootstrap a spec gets, for every combination of the attributes: the import
bootstrap exactly for a plain local `popen` (no `python=`, no `via=`) and then over a direct pipe to a child
of this very interpreter; source shipping (`exec`) for `python=`, `via=`, `ssh=`, `vagrant_ssh=`; the socket
bootstrap for socket specs; anything else fails with ValueError before a gateway exists. -/
theorem C15_paths (s : Spec) :
    (bootstrapKind s = .import ↔ s.popen = true ∧ s.via = false ∧ s.python = false)
    ∧ (bootstrapKind s = .exec ↔
        (s.popen = true ∧ (s.via = true ∨ s.python = true))
        ∨ (s.popen = false ∧ (s.ssh = true ∨ s.vagrant_ssh = true)))
    ∧ (bootstrapKind s = .socket ↔
        s.popen = false ∧ s.ssh = false ∧ s.vagrant_ssh = false ∧ s.socket = true)
    ∧ (bootstrapKind s = .error ↔
        s.popen = false ∧ s.ssh = false ∧ s.vagrant_ssh = false ∧ s.socket = false)
    ∧ (bootstrapKind s = .import → ioKind s = .pipe)
    ∧ Generated.bootstrapSelect.eval s = (bootstrapKind s).outcome := by
  obtain ⟨a, b, c, d, e, f⟩ := s
  revert a b c d e f
  decide +kernel

/-- the unit holding the shipped `gateway_base` text in the exec sequence -/
def shippedBase : List SUnit :=
  (Generated.sequences.filter (·.name == "exec")).flatMap fun q => q.units.filter (·.name == "exec:gateway_base")

/-- the `execnet…` imports of the import bootstrap's lines -/
def importBootstrapImports : List Import :=
  (Generated.sequences.filter (·.name == "import")).flatMap fun q =>
    q.units.flatMap fun u => u.imports.filter (·.root == "execnet")

/-- **C15 (same tail).** All three bootstraps end in the same call `serve(<io>, id='%s-worker')`; the import
and the exec bootstrap build `<io>` and the execmodel by the very same expressions; `serve`,
`init_popen_io`, `get_execmodel` are taken from `execnet.gateway_base` on the import path and are defined
by the shipped text — the source of that same module — on the other two.  Hence after the first byte an
exec- or socket-bootstrapped worker runs the same `WorkerGateway.serve` as an import-bootstrapped one. -/
theorem C15_same_tail :
    Generated.bootstrapTails.map (·.kind) = ["import", "exec", "socket"]
    ∧ (∀ t ∈ Generated.bootstrapTails, t.callee = "serve" ∧ t.idTemplate = "%s-worker"
        ∧ (t.kind = "import" → t.importedFrom = "execnet.gateway_base")
        ∧ (t.kind ≠ "import" → t.shippedModule = "gateway_base"))
    ∧ (∀ t ∈ Generated.bootstrapTails, ∀ t' ∈ Generated.bootstrapTails,
        t.kind = "import" → t'.kind = "exec" → t.io = t'.io ∧ t.execmodel = t'.execmodel)
    ∧ shippedBase.length = 1
    ∧ (∀ u ∈ shippedBase, ∀ n ∈ ["serve", "init_popen_io", "get_execmodel", "Message", "Popen2IO"], n ∈ u.defined)
    ∧ importBootstrapImports.length = 1
    ∧ (∀ i ∈ importBootstrapImports,
        i.module = "execnet.gateway_base" ∧ ∀ n ∈ i.names, ∀ b ∈ shippedBase, n ∈ b.defined) := by
  decide +kernel

/-- pins of the constants the harness and the other theorems rely on -/
theorem C15_pins :
    Generated.popenBootstrapLine = "import sys;exec(eval(sys.stdin.readline()))"
    ∧ Generated.channelexecName = "__channelexec__"
    ∧ Generated.nonAsciiShipped = []
    ∧ Generated.specFlags = ["popen", "python", "socket", "ssh", "vagrant_ssh", "via"]
    ∧ (Generated.sequences.map (·.name)).take 3 = ["import", "exec", "socket"]
    ∧ (∀ q ∈ Generated.sequences, q.name = "exec" → q.inMain = true)
    ∧ (∀ q ∈ Generated.sequences, q.name = "socket" → q.inMain = false ∧ "clientsock" ∈ q.injected)
    ∧ (∀ q ∈ Generated.sequences, (q.name.startsWith "remote_exec:") = true →
        q.injected = ["channel", "__name__"]) := by
  decide +kernel

/-- **known finding, stated exactly**: the proxy forwarder (`gateway_io`, run by `via=`) finds `Message` and
`Popen2IO` in `__main__` only on a pipe-bootstrapped master.  On a master started by the stand-alone socket
server `__main__` is the server script, which defines neither — `via=` through such a master fails with
ImportError when execnet is not installed there. -/
theorem C15_via_socket_master_counterexample :
    ∃ q ∈ shippedSequences, ∃ u ∈ q.units, ∃ i ∈ u.imports,
      u.name = "remote_exec:gateway_io" ∧ i.relevant ∧ ¬ ImportOk Generated.stdlibModules mainOfSocketWorker u i := by
  decide +kernel

/-! ### non-vacuity -/

example : shippedSequences.length ≥ 7 := by decide +kernel
example : ∃ q ∈ shippedSequences, ∃ u ∈ q.units, u.imports.length ≥ 40 ∧ u.freeGlobals.length ≥ 30 := by
  decide +kernel
/-- the closure condition is not trivially true: a text that reads a sibling helper is rejected -/
example : ¬ NamesOk Generated.builtinNames []
    { name := "x", imports := [], fallbacks := [], excluded := [], defined := ["f"], freeGlobals := ["len", "XSpec"] } := by
  decide +kernel
example : ¬ ImportOk Generated.stdlibModules mainOfPipeWorker
    { name := "x", imports := [], fallbacks := [], excluded := [], defined := [], freeGlobals := [] }
    { module := "execnet.xspec", root := "execnet", relative := false, bound := ["execnet"], names := [],
      scope := "", funcLevel := false, guarded := false, fallback := false, backends := [] } := by
  decide +kernel
example : bootstrapKind ⟨true, false, true, false, false, false⟩ = .exec := by decide

end ExecnetVerif
