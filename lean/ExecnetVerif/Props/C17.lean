/-
C17 — RSync makes every target tree equal to the source, minimally.

Model: `Model/Rsync.lean` (sender stream, receiver recursion with its decision table, content phase,
link phase, per-channel state machine) — all theorems are for ALL trees (structural induction over the
nested tree type; no bound on size, depth, names or the prior target state).

Forced hypotheses, stated explicitly:
* `wfTree src`: every directory of the source lists each name once and every listed entry exists
  (is a regular file, a directory or a symlink). Real directories always satisfy this; relative paths are
  component lists in the model, so "names are single path components" is built into the types.
* `quickCheckSound src tgt`: a prior target file with the same size and the same `st_mtime` as the
  source file at the same path has the same content. The receiver skips such a file unseen (rsync's
  quick check), so without it `C17_equal` is false — known finding D19, not assumed silently.
Stated assumption of the model: md5 equality is content equality (`Blob` identity).
-/
import ExecnetVerif.Proofs.RsyncExpect
import ExecnetVerif.Generated.RsyncTables
namespace ExecnetVerif
open ExecnetVerif.Rsync ExecnetVerif.Path

/-- **C17 (equal).** After `RSync.send()` the target tree is exactly the tree the property demands
(`expect`): every source file with the source's content, permission bits and mtime; every directory
with the source's entries and its mode (owner-rwx forced on); every symlink with the same target string,
or — for an absolute target strictly inside the source tree — the corresponding place below the
destination; with `delete` nothing else, without it every unlisted prior entry untouched. For **any**
prior target tree, including entries of another kind at any position and a missing / non-directory
root. -/
theorem C17_equal (sd : Sender) (src : Tree) (tg : Target)
    (hw : wfTree src) (hq : quickCheckSound src tg.tree) :
    (sync sd src tg).tree = expect sd.sourcedir tg.destdir tg.delete src tg.tree :=
  (sync_eq_expect sd src tg hw).1 hq

/-- **C17 (minimal).** Content travels (`_report_send_file`) exactly for the source files that have
no prior target file of the same size with the same mtime or the same content — in particular never for
a file whose content the target already has. -/
theorem C17_minimal (sd : Sender) (src : Tree) (tg : Target)
    (hw : wfTree src) (hq : quickCheckSound src tg.tree) :
    (sync sd src tg).sent = expectSent src tg.tree :=
  (sync_eq_expect sd src tg hw).2

/-- **C17 (complete, reading of `expect`).** Whatever exists at a path of the source exists at that path
of the target afterwards: a file as the very same file (content, bits, mtime), a link as the expected
link. -/
theorem C17_complete (sd : Sender) (src : Tree) (tg : Target)
    (hw : wfTree src) (hq : quickCheckSound src tg.tree) (p : List Name) :
    (∀ b m t, getPath p src = .file b m t → getPath p (sync sd src tg).tree = .file b m t) ∧
    (∀ l, getPath p src = .link l →
      getPath p (sync sd src tg).tree = .link (expectLink sd.sourcedir tg.destdir l)) := by
  rw [C17_equal sd src tg hw hq]
  constructor
  · intro b m t h
    rw [getPath_expect _ _ _ p src tg.tree (by rw [h]; exact Tree.noConfusion), h]; rfl
  · intro l h
    rw [getPath_expect _ _ _ p src tg.tree (by rw [h]; exact Tree.noConfusion), h]; rfl

/-- **C17 (idempotent).** Re-syncing the unchanged source onto the result transfers no file content
and changes nothing. -/
theorem C17_idempotent (sd : Sender) (src : Tree) (tg : Target)
    (hw : wfTree src) (hq : quickCheckSound src tg.tree) :
    (sync sd src { tg with tree := (sync sd src tg).tree }).tree = (sync sd src tg).tree ∧
    (sync sd src { tg with tree := (sync sd src tg).tree }).sent = [] := by
  have h1 := C17_equal sd src tg hw hq
  have hf := expect_fixed sd.sourcedir tg.destdir tg.delete src hw tg.tree
  have h2 := sync_eq_expect sd src { tg with tree := (sync sd src tg).tree } hw
  simp only at h2
  rw [h2.1 (by rw [h1]; exact hf.1), h2.2, h1]
  exact ⟨hf.2.2, hf.2.1⟩

/-- **C17 (cwd-independent).** After the D14 fix the result does not depend on the working directory
of the calling process (the model of the fixed sender never reads it). -/
theorem C17_cwd_independent (sourcedir cwd₁ cwd₂ : RawPath) (src : Tree) (tg : Target) :
    sync ⟨sourcedir, cwd₁⟩ src tg = sync ⟨sourcedir, cwd₂⟩ src tg := rfl

/-- what a link at `p` points at -/
def linkAt (p : List Name) (t : Tree) : Option RawPath :=
  match getPath p t with
  | .link x => some x
  | _ => none

/-- source `/s` with `f1`, `rel -> f1`, `abs -> /s/f1`, synced to the missing `/d` -/
def c17Links : Tree :=
  .dir 0o755 [("f1", .file ⟨1, 7⟩ 0o644 100), ("rel", .link ["f1"]), ("abs", .link ["", "s", "f1"])]

/-- **pinned tree (D14).** With the pre-fix classification (`os.path.relpath` resolving a relative
target against the caller's cwd) the relative link `rel -> f1` stays relative when `send()` is called
from `/` and becomes the absolute `/d/f1` when it is called from the source directory; the fixed model
gives `f1` from both (and re-bases only the absolute in-tree link). -/
theorem C17_pinned_cwd_counterexample :
    linkAt ["rel"] (syncOld ⟨["", "s"], ["", ""]⟩ c17Links ⟨["", "d"], false, .absent⟩).tree = some ["f1"] ∧
    linkAt ["rel"] (syncOld ⟨["", "s"], ["", "s"]⟩ c17Links ⟨["", "d"], false, .absent⟩).tree = some ["", "d", "f1"] ∧
    linkAt ["rel"] (sync ⟨["", "s"], ["", "s"]⟩ c17Links ⟨["", "d"], false, .absent⟩).tree = some ["f1"] ∧
    linkAt ["abs"] (sync ⟨["", "s"], ["", "s"]⟩ c17Links ⟨["", "d"], false, .absent⟩).tree = some ["", "d", "f1"] := by
  decide +kernel

/-- **C17 (multi).** Several targets are each complete and independent: whatever the order in which
the sender's main loop serves the channels' requests (`sched`), every target ends exactly as if it had
been synced alone (each with its own destination directory, `delete` flag and prior state). -/
theorem C17_multi (sd : Sender) (src : Tree) (tgs : List Target) (sched : List Nat) :
    syncAll sd src tgs sched = tgs.map (sync sd src) := by
  unfold syncAll
  rw [map_finishT_sched, List.map_map]
  rfl

/-- **C17 (delete).** With `delete=True` nothing else remains: every path that exists at the target
afterwards exists in the source. -/
theorem C17_delete (sd : Sender) (src : Tree) (tg : Target)
    (hw : wfTree src) (hq : quickCheckSound src tg.tree) (hd : tg.delete = true) (p : List Name) :
    getPath p (sync sd src tg).tree ≠ .absent → getPath p src ≠ .absent := by
  rw [C17_equal sd src tg hw hq, hd]
  exact expect_delete_subset sd.sourcedir tg.destdir src hw p tg.tree

/-- **C17 (no delete).** Without `delete` unrelated entries are untouched: if `q` is a directory of the
source that does not list `n`, then what was at `q/n` of the target before (the whole subtree, or
nothing) is there afterwards. -/
theorem C17_nodelete (sd : Sender) (src : Tree) (tg : Target)
    (hw : wfTree src) (hq : quickCheckSound src tg.tree) (hd : tg.delete = false)
    (q : List Name) (n : Name) (m : Nat) (es : List (Name × Tree))
    (hdir : getPath q src = .dir m es) (hn : n ∉ es.map Prod.fst) :
    getPath (q ++ [n]) (sync sd src tg).tree = getPath (q ++ [n]) tg.tree := by
  rw [C17_equal sd src tg hw hq, hd]
  exact expect_nodelete_untouched sd.sourcedir tg.destdir n q src tg.tree hdir hn

/-- **known finding D19 is exactly the missing hypothesis**: a prior file with the size and mtime of the
source file but other content is left as it is (so `C17_equal` without `quickCheckSound` is false). -/
theorem C17_quickcheck_counterexample :
    (sync ⟨["", "s"], ["", ""]⟩ (.dir 0o755 [("f", .file ⟨4, 1⟩ 0o644 100)])
      ⟨["", "d"], false, .dir 0o755 [("f", .file ⟨4, 2⟩ 0o644 100)]⟩).sent = [] ∧
    (match getPath ["f"] (sync ⟨["", "s"], ["", ""]⟩ (.dir 0o755 [("f", .file ⟨4, 1⟩ 0o644 100)])
      ⟨["", "d"], false, .dir 0o755 [("f", .file ⟨4, 2⟩ 0o644 100)]⟩).tree with
     | .file b _ _ => b.id
     | _ => 0) = 2 := by
  decide +kernel

/-- the constants of the real protocol the model restates (regenerated from the source on every run):
only the directory `chmod` forces owner-rwx (D13), the decision chain tests size, then mtime, then mode,
the message tags and the end marker agree on both sides, the file message is (mode, mtime, size), and
`relpath` is applied to absolute link targets only (D14) -/
theorem C17_generated_pins :
    Generated.rsyncChmodMasks = [0o700, 0, 0] ∧
    Generated.rsyncDecisionChain = ["st_size", "st_mtime", "st_mode"] ∧
    Generated.rsyncRequestTags = ["send", "list_done", "ack", "links", "done"] ∧
    Generated.rsyncDispatchTags = ["links", "done", "ack", "list_done", "send"] ∧
    Generated.rsyncLinkMarkers = [42, 42] ∧
    Generated.rsyncFileMsg = ["st_mode", "st_mtime", "st_size"] ∧
    Generated.rsyncRelpathOnlyForAbsolute = true :=
  ⟨rfl, rfl, rfl, rfl, rfl, rfl, rfl⟩

/-! ### non-vacuity: concrete non-trivial states meet the hypotheses, and the theorems say something -/

/-- a source with a nested directory, files and the three kinds of links -/
def c17Src : Tree :=
  .dir 0o555 [("a", .file ⟨3, 11⟩ 0o444 1700000000),
              ("sub", .dir 0o755 [("b", .file ⟨0, 12⟩ 0o600 5), ("up", .link ["..", "a"])]),
              ("abs", .link ["", "s", "sub", "b"]), ("out", .link ["", "etc", "passwd"])]

/-- a prior target with a stale file, an entry of another kind and unrelated entries -/
def c17Tgt : Tree :=
  .dir 0o700 [("a", .file ⟨3, 99⟩ 0o644 1600000000), ("sub", .link ["a"]),
              ("extra", .dir 0o755 [("x", .file ⟨1, 5⟩ 0o644 7)]), ("abs", .dir 0o755 [])]

example : wfTree c17Src ∧ quickCheckSound c17Src c17Tgt := by
  simp [c17Src, c17Tgt, wfTree, wfTreeL, quickCheckSound, quickCheckSoundL, entriesOf, lookup]

example : (sync ⟨["", "s"], ["", "x"]⟩ c17Src ⟨["", "d"], false, c17Tgt⟩).sent = [["a"], ["sub", "b"]] := by decide +kernel
example : linkAt ["abs"] (sync ⟨["", "s"], ["", "x"]⟩ c17Src ⟨["", "d"], true, c17Tgt⟩).tree = some ["", "d", "sub", "b"] := by
  decide +kernel
example : linkAt ["sub", "up"] (sync ⟨["", "s"], ["", "x"]⟩ c17Src ⟨["", "d"], true, c17Tgt⟩).tree = some ["..", "a"] := by
  decide +kernel
/-- `extra` survives without delete and is gone with it -/
example : (getPath ["extra", "x"] (sync ⟨["", "s"], ["", "x"]⟩ c17Src ⟨["", "d"], false, c17Tgt⟩).tree matches .file _ _ _) = true ∧
    (getPath ["extra"] (sync ⟨["", "s"], ["", "x"]⟩ c17Src ⟨["", "d"], true, c17Tgt⟩).tree matches .absent) = true := by
  decide +kernel
/-- three targets served in an interleaved order -/
example : (syncAll ⟨["", "s"], ["", "x"]⟩ c17Src
    [⟨["", "d1"], false, c17Tgt⟩, ⟨["", "d2"], true, .absent⟩, ⟨["", "d3"], true, .file ⟨1, 1⟩ 0o644 1⟩] [2, 0, 1, 1, 0, 2, 2, 1]).map (·.sent.length)
    = [2, 2, 2] := by decide +kernel

end ExecnetVerif
