/-
C10 — Callback receivers see every item once, in order, then one endmarker.
-/
import ExecnetVerif.Proofs.Net.Got
import ExecnetVerif.Proofs.Net.Cb
import ExecnetVerif.Props.NetFine         -- audited through this module (harness/obligations.json)
import ExecnetVerif.Props.NetGranularity  -- audited through this module
namespace ExecnetVerif
open Net

/-- **C10 (hand-over).** In callback mode (`queue = none`) everything that was accepted for the
channel — the items drained from the queue by `setcallback` and every item delivered later — has been
handed to the user exactly once and in order: `got = kept`, with the callback's items forming the
tail of `got` (what was received before `setcallback` forms the head).  This holds wherever the
`setcallback` falls relative to the deliveries of in-flight items and of the peer's close. -/
theorem C10_handover {fails : Item → Bool} {st : State} (h : Reachable fails st) (p : Side) (id : Nat)
    (hq : ((st.side p).chans id).queue = none) (hb : (st.side p).broken id = false) :
    (st.side p).got id = (st.side p).kept id ∧
    ∃ pre, (st.side p).got id = pre ++ cbItems ((st.side p).cbLog id) := by
  have hg := (GotInv_reachable h p id).2 hb
  rw [hq, queueItems_none, List.append_nil] at hg
  exact ⟨hg, (viewOK_reachable h p id).c8 hb⟩

/-- with C02: the items the callback (and the receives before it) got are, in order and without
repetition, items the peer sent on this channel (unless the id was re-opened or a callback raised) -/
theorem C10_items_in_order {fails : Item → Bool} {st : State} (h : Reachable fails st) (p : Side) (id : Nat) :
    List.Sublist (cbItems ((st.side p).cbLog id)) ((st.side p.peer).sent id) ∨ (st.side p).broken id = true := by
  cases hb : (st.side p).broken id with
  | true => exact Or.inr rfl
  | false =>
    left
    obtain ⟨pre, hpre⟩ : ∃ pre, (st.side p).got id = pre ++ cbItems ((st.side p).cbLog id) :=
      (viewOK_reachable h p id).c8 hb
    have : List.Sublist (cbItems ((st.side p).cbLog id)) ((st.side p).got id) :=
      hpre ▸ List.sublist_append_right _ _
    exact (this.trans (List.sublist_append_left _ _)).trans (got_queued_sublist_sent h p id)

/-- **C10 (receive is refused).** Once a callback is set, `receive()` and a second `setcallback` raise. -/
theorem C10_receive_refused (fails : Item → Bool) (st : State) (p : Side) (id : Nat) (w : Bool)
    (ha : ((st.side p).chans id).alive = true) (hq : ((st.side p).chans id).queue = none) :
    (step fails st (.receive p id)).1 = .osError ∧ (step fails st (.setcallback p id w)).1 = .osError :=
  Net.C10_receive_refused fails st p id w ha hq

/-- **C10 (at most one endmarker, and it is last).** The callback of a channel receives the endmarker at
most once, and nothing after it (unless the id was re-opened or a callback raised). -/
theorem C10_endmarker_once {fails : Item → Bool} {st : State} (h : Reachable fails st) (p : Side) (id : Nat)
    (hb : (st.side p).broken id = false) :
    ((st.side p).cbLog id).count .endmarker ≤ 1 ∧
    (.endmarker ∈ (st.side p).cbLog id → ((st.side p).cbLog id).getLast? = some .endmarker) :=
  Net.C10_endmarker_once p id (CbAll_reachable h).2 hb

/-- **C10 (the endmarker is delivered).** If an endmarker was requested and the conversation has ended
at this side — the peer's CLOSE / CLOSE_ERROR / LAST_MESSAGE was handled (explicit close, end of the
remote execution, remote error), the side closed locally, or the receiver thread ended (connection lost
or terminated, or a callback raising after the IO was closed) —
then the endmarker HAS been delivered, also when the local channel object had been dropped (the
callback entry outlives the object). -/
theorem C10_endmarker_eventually {fails : Item → Bool} {st : State} (h : Reachable fails st) (p : Side) (id : Nat)
    (hw : (st.side p).cbWants id = some true) (he : (st.side p).ended id = true)
    (hb : (st.side p).broken id = false) : CbEvent.endmarker ∈ (st.side p).cbLog id :=
  Net.C10_endmarker_eventually p id (CbAll_reachable h).2 hw he hb

/-- … and the endings do set `ended`: `_local_close` (run for every closing frame of the peer) for its id,
and the receiver epilogue for every id that still had a callback. -/
theorem C10_endings_end (fails : Item → Bool) (x : SideSt) (id : Nat) (err : Option Nat) (so : Bool) (isCut : Bool) :
    (localClose x id err so).ended id = true ∧
    ((x.cbs id).isSome = true → (epilogue x isCut).ended id = true) :=
  ⟨by rw [localClose_ended]; exact upd_same .., fun hc => by simp [epilogue, hc]⟩

/-- an endmarker is never delivered unless requested -/
theorem C10_endmarker_only_on_request {fails : Item → Bool} {st : State} (h : Reachable fails st) (p : Side) (id : Nat)
    (hb : (st.side p).broken id = false) (he : CbEvent.endmarker ∈ (st.side p).cbLog id) :
    (st.side p).cbWants id = some true :=
  (viewOK_reachable h p id).c7 hb he

/-! non-vacuity: setcallback between two in-flight items, then the remote exec ends; the callback log is
item, item, endmarker and a later receive is refused -/
example : (let r := run (fun _ => false) init [.remoteExec, .deliver .B, .send .B 1 ⟨7, []⟩, .send .B 1 ⟨8, []⟩,
      .deliver .A, .setcallback .A 1 true, .deliver .A, .execFinish 1 .ret, .deliver .A, .receive .A 1]
    (r.1.getLast?, r.2.a.cbLog 1)) = (some .osError, [.item ⟨7, []⟩, .item ⟨8, []⟩, .endmarker]) := by decide

/-- **C10 (MultiChannel).** `MultiChannel.make_receive_queue` installs one callback per member channel,
each appending `(channel, event)` to ONE shared FIFO.  Whatever the interleaving of the member
channels' callback invocations, the projection of the queue on a member channel is exactly that
channel's callback-event sequence — so every per-channel guarantee above (each item once, in order,
then one endmarker) holds per member. -/
theorem C10_multichannel {Ch Ev : Type} [DecidableEq Ch] (events : List (Ch × Ev)) (c : Ch) :
    ((events.foldl (fun q e => q ++ [e]) ([] : List (Ch × Ev))).filter (fun e => e.1 = c)).map Prod.snd
      = (events.filter (fun e => e.1 = c)).map Prod.snd := by
  have : ∀ (acc : List (Ch × Ev)), events.foldl (fun q e => q ++ [e]) acc = acc ++ events := by
    induction events with
    | nil => intro acc; simp
    | cons e t ih => intro acc; simp [ih]
  rw [this []]; simp

end ExecnetVerif
