/-
C03 — Close is ordered after data and observed consistently by both sides.
-/
import ExecnetVerif.Proofs.Net.Got
import ExecnetVerif.Proofs.Net.Close
import ExecnetVerif.Props.NetFine  -- audited through this module (harness/obligations.json)
namespace ExecnetVerif
open Net

/-- **C03 (data before the close).** Once side `p` has handled a closing frame of the peer for a
channel (CLOSE, CLOSE_ERROR or LAST_MESSAGE — explicit close, end of the remote_exec, or the peer
dropping its last reference), it has handled EVERY item the peer ever sent on that channel: closing
frames travel behind the data on the same FIFO, and the peer cannot send afterwards. -/
theorem C03_data_before_eof {fails : Item → Bool} {st : State} (h : Reachable fails st) (p : Side) (id : Nat)
    (hs : (st.side p).closeSeen id = true) (hb : (st.side p.peer).broken id = false) :
    (st.side p).delivered id = (st.side p.peer).sent id :=
  Net.C03_data_before_eof st p id (WireInv_reachable h)
    (CloseInv_reachable h) hs hb

/-- … and if `p` kept its end (nothing dropped, id not re-opened) those items are exactly what it has
obtained so far plus what is still queued before the ENDMARKER: nothing is lost at the end. -/
theorem C03_all_items_receivable {fails : Item → Bool} {st : State} (h : Reachable fails st) (p : Side) (id : Nat)
    (hs : (st.side p).closeSeen id = true) (hb : (st.side p.peer).broken id = false)
    (hd : (st.side p).dropped id = false) (hbp : (st.side p).broken id = false) :
    (st.side p).got id ++ queueItems ((st.side p).chans id).queue = (st.side p.peer).sent id := by
  rw [← C03_data_before_eof h p id hs hb, ← (KeptInv_reachable h p id).2 hd]
  exact (GotInv_reachable h p id).2 hbp

/-- **C03 (EOF is sticky).** Once a channel object has no more items and is at its end (its queue is
nothing but ENDMARKERs, or it is in callback mode), NO operation of anybody ever makes an item
appear on it again — whatever the other threads and the receiver thread do — unless the id is
re-opened by a channel transfer (which marks it `broken`, i.e. a new conversation). -/
theorem C03_eof_sticky {fails : Item → Bool} {st : State} (h : Reachable fails st) (p : Side) (id : Nat)
    (he : noMoreItems ((st.side p).chans id)) (op : Op) :
    noMoreItems (((step fails st op).2.side p).chans id) ∨ ((step fails st op).2.side p).broken id = true :=
  Net.C03_no_item_after_end (ShapeInv_reachable h) he op

/-- … and every `receive` in that state raises (EOFError, a pending RemoteError once, or OSError in
callback mode) — for every receiver, repeatedly. -/
theorem C03_receive_at_end {fails : Item → Bool} {st : State} (p : Side) (id : Nat)
    (he : noMoreItems ((st.side p).chans id)) (ha : ((st.side p).chans id).alive = true) :
    (step fails st (.receive p id)).1 = .osError ∨ (step fails st (.receive p id)).1 = .eofError ∨
      ∃ e, (step fails st (.receive p id)).1 = .remoteError e :=
  Net.C03_receive_at_end he ha

/-- **C03 (the closing side).** On a side whose channel object is closed — by its own `close()`, or
because it handled the peer's close — `send` raises OSError, `isclosed()` is true, `waitclose` does
not block, and a further `close()` is a no-op that writes nothing. -/
theorem C03_closer_side {fails : Item → Bool} {st : State} (h : Reachable fails st) (s : Side) (id : Nat)
    (ha : ((st.side s).chans id).alive = true) (hc : ((st.side s).chans id).closed = true) :
    (∀ v, (step fails st (.send s id v)).1 = .osError ∨ (step fails st (.send s id v)).1 = .notEnabled) ∧
    (step fails st (.isclosed s id)).1 = .bool true ∧
    (step fails st (.waitclose s id)).1 ≠ .wouldBlock ∧
    (((st.side s).chans id).executing = false → step fails st (.close s id none) = (.ok, st)) := by
  have hr : ((st.side s).chans id).rclosed = true :=
    Chan.Shape.rclosed_of_closed (ShapeInv_reachable h s id) hc
  refine ⟨?_, ?_, ?_, ?_⟩
  · exact fun v => step_send_refused v (.inl hc)
  · simp [step, ha, hc]
  · exact step_waitclose_of_rclosed ha hr
  · intro he
    simp only [step, ha, chanClose, he, hc]
    cases s <;> rfl

/-- the peer cannot send on a channel after it wrote a closing frame for it -/
theorem C03_no_send_after_close {fails : Item → Bool} {st : State} (h : Reachable fails st) (s : Side) (id : Nat)
    (v : Item) (hcs : (st.side s).closeSent id = true) (hb : (st.side s).broken id = false) :
    (step fails st (.send s id v)).1 = .notEnabled ∨ (step fails st (.send s id v)).1 = .osError :=
  Net.C03_no_send_after_close fails st s id v
    (CloseInv_reachable h) hcs hb

/-! non-vacuity: a conversation that ends by the end of the remote_exec; the initiator receives the item,
then EOF twice -/
example : ((run (fun _ => false) init [.remoteExec, .deliver .B, .send .B 1 ⟨7, []⟩, .execFinish 1 .ret,
    .deliver .A, .deliver .A, .receive .A 1, .receive .A 1, .receive .A 1, .waitclose .A 1]).1
    = [.chan 1, .ok, .ok, .ok, .ok, .ok, .item ⟨7, []⟩, .eofError, .eofError, .ok]) := by decide

end ExecnetVerif
