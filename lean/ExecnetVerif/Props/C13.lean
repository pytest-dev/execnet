/-
C13 — Loading untrusted bytes is total, typed-error-only and side-effect free.
-/
import ExecnetVerif.Proofs.SerGrammar
import ExecnetVerif.Proofs.SerRoundtrip
import ExecnetVerif.Generated.Tables
import ExecnetVerif.Proofs.FrameLemmas
namespace ExecnetVerif

/-- **C13 (totality and typed errors).** `loads` is a total function of the byte string — Lean
accepts its definition only because every opcode consumes input monotonically (`step_len`, the
termination proof of `run`) — and for EVERY byte string its only outcomes are a value, EOFError or
DataFormatError.  MemoryError can arise only under a finite memory limit (the known finding:
NEWLIST counts are trusted). -/
theorem C13_typed (cfg : Cfg) (bs : Bytes) :
    (∃ v, loads cfg bs = .ok v) ∨ loads cfg bs = .error .eof ∨ loads cfg bs = .error .dataFormat
      ∨ (cfg.memLimit ≠ none ∧ loads cfg bs = .error .memory) := by
  cases h : loads cfg bs with
  | ok v => exact Or.inl ⟨v, rfl⟩
  | error e =>
    cases e with
    | eof => exact Or.inr (Or.inl rfl)
    | dataFormat => exact Or.inr (Or.inr (Or.inl rfl))
    | memory =>
      obtain ⟨rest, h'⟩ := loads_run h (by nofun) (by nofun)
      exact Or.inr (Or.inr (Or.inr ⟨run_memory cfg _ _ h', rfl⟩))

/-- with unbounded memory the outcome is a value, EOFError or DataFormatError — nothing else -/
theorem C13_typed_unbounded (cfg : Cfg) (hm : cfg.memLimit = none) (bs : Bytes) :
    (∃ v, loads cfg bs = .ok v) ∨ loads cfg bs = .error .eof ∨ loads cfg bs = .error .dataFormat := by
  rcases C13_typed cfg bs with h | h | h | ⟨h, _⟩
  · exact Or.inl h
  · exact Or.inr (Or.inl h)
  · exact Or.inr (Or.inr h)
  · exact absurd hm h

/-- **C13 (grammar / no channel objects outside a gateway).** Whatever the bytes, a value returned
by `loads` without a channel factory is built only from the supported builtin types: it contains
no channel object and no foreign object at any depth. -/
theorem C13_grammar (cfg : Cfg) (hf : cfg.hasFactory = false) (bs : Bytes) (v : PyVal)
    (h : loads cfg bs = .ok v) : clean v = true := by
  obtain ⟨rest, h'⟩ := loads_run h (by nofun) (by nofun)
  exact run_clean cfg hf _ [] (by intro x hx; simp at hx) v h'

/-- **C13 (version).** A foreign version byte is rejected with DataFormatError, whatever follows. -/
theorem C13_version (cfg : Cfg) (b : UInt8) (rest : Bytes) (h : b ≠ dumpVersion) :
    loads cfg (b :: rest) = .error .dataFormat :=
  loads_version cfg b rest h

/-- **C13 (no prefix).** No strict prefix of a valid dump loads successfully: loading it fails, and it
fails as "the input ended early" (EOFError).  (`dumps v = .ok (dumpVersion :: (enc v ++ [opSTOP]))`
for a well-formed `v` is `C01_total`.) -/
theorem C13_no_prefix (cfg : Cfg) (hcfg : cfg.py3str_as_py2str = false) (hmem : cfg.memLimit = none)
    (v : PyVal) (h : WF v) (p : Bytes) (hp : p <+: dumpVersion :: (enc v ++ [opSTOP]))
    (hne : p ≠ dumpVersion :: (enc v ++ [opSTOP])) : loads cfg p = .error .eof := by
  rcases List.prefix_cons_iff.mp hp with rfl | ⟨q, rfl, hq⟩
  · rfl
  · rw [loads_dumpVersion]
    rcases List.prefix_concat_iff.mp hq with rfl | hq
    · exact absurd rfl hne
    · exact run_enc_prefix cfg hcfg hmem v h q hq []

/-- the same, stated against `dumps`: every strict prefix of the bytes `dumps` produces -/
theorem C13_no_prefix_dumps (cfg : Cfg) (hcfg : cfg.py3str_as_py2str = false)
    (hmem : cfg.memLimit = none) (v : PyVal) (h : WF v) (bs p : Bytes) (hd : dumps v = .ok bs)
    (hp : p <+: bs) (hne : p ≠ bs) : loads cfg p = .error .eof := by
  cases (dumps_of_dumpErr v (dumpErr_of_WF v h)).symm.trans hd
  exact C13_no_prefix cfg hcfg hmem v h p hp hne

/-- the empty input "merely ends early" -/
theorem C13_empty (cfg : Cfg) : loads cfg [] = .error .eof := rfl

def loaderAllowList : List String :=
  ["EOFError", "LoadError", "as_bytes.decode", "complex", "int", "isinstance", "len", "loader",
   "self._load_collection", "self._read_byte_string", "self._read_byte_string().decode",
   "self._read_exact", "self._read_int4", "self.channelfactory.new", "self.stack.append",
   "self.stack.pop", "self.stream.read", "struct.unpack", "type_"]

/-- **C13 (never runs code).** Every function or method called anywhere inside the loader class
(regenerated from the source on every run) is on the allow-list of data-only operations above. -/
theorem C13_no_code_exec : ∀ c ∈ Generated.loaderCalls, c ∈ loaderAllowList := by decide +kernel

/-! non-vacuity: garbage that loads, garbage that fails in each class -/
example : loads cfgPublic [dumpVersion, opNONE, opSTOP] = .ok .none := by
  rw [loads_dumpVersion, run_cont (step_NONE _ _ _), run_stop (step_STOP _ _ _)]; rfl
example : loads cfgPublic [dumpVersion, opNONE] = .error .eof := by
  rw [loads_dumpVersion, run_cont (step_NONE _ _ _), run_nil]
example : loads cfgPublic [dumpVersion, opCHANNEL, 0, 0, 0, 1, opSTOP] = .error .dataFormat := by
  rw [loads_dumpVersion]
  exact run_err (by rw [step_CHANNEL]; rfl)

/-! non-vacuity of `C13_no_prefix`: a nested well-formed value, its dump, and a strict prefix cut
inside the string payload of the dict value -/
def c13Sample : PyVal := .tuple [.list [.int 7, .none], .dict [(.int 1, .str "ab")]]

theorem c13Sample_WF : WF c13Sample := by
  simp [c13Sample, WF, WFAll, WFPairs, fresh, hashable, pyMem, inI32, two31_eq]; decide

example : dumps c13Sample = .ok
    [2, 75, 0, 0, 0, 2, 70, 0, 0, 0, 0, 70, 0, 0, 0, 7, 80, 70, 0, 0, 0, 1, 76, 80,
     74, 70, 0, 0, 0, 1, 78, 0, 0, 0, 2, 97, 98, 80, 64, 0, 0, 0, 2, 81] := by
  rw [dumps_of_dumpErr _ (dumpErr_of_WF _ c13Sample_WF)]; exact congrArg Except.ok (by decide)

example : loads cfgPublic
    [2, 75, 0, 0, 0, 2, 70, 0, 0, 0, 0, 70, 0, 0, 0, 7, 80, 70, 0, 0, 0, 1, 76, 80,
     74, 70, 0, 0, 0, 1, 78, 0, 0, 0, 2, 97] = .error .eof :=
  C13_no_prefix cfgPublic rfl rfl c13Sample c13Sample_WF _ (by decide) (by decide)

/-! ### `load()` from a stream that hands the bytes out in pieces (`Model/Chunk.lean`: `unserReadExact`) -/

/-- `Unserializer._read_exact` as the translator reads it: one `read(numbytes)`, then `read(numbytes - len(buf))` until
complete, `EOFError` on an empty read, negative counts refused before anything is read -/
theorem C13_read_exact_pinned :
    Generated.readExactSteps = [(0, "if numbytes < 0"), (1, "raise LoadError"), (0, "buf = self.stream.read(numbytes)"),
      (0, "while len(buf) < numbytes"), (1, "data = self.stream.read(numbytes - len(buf))"), (1, "if not data"),
      (2, "raise EOFError"), (1, "buf += data"), (0, "return buf")] :=
  rfl

/-- **C13 / C01 (any chunking).** However the stream cuts the input into non-empty pieces — every list of chunks —
`_read_exact(n)` returns exactly the next `n` bytes and leaves exactly the rest, or, when fewer than `n` bytes are left,
ends with `EOFError("expected n bytes, got <all that was left>")`: what `load()` sees does not depend on the chunking, so it
is what `loads()` sees on the concatenation. -/
theorem C13_read_exact_any_chunking (chunks : List Bytes) (n : Nat) (hne : ∀ c ∈ chunks, c ≠ []) :
    (n ≤ chunks.flatten.length →
      ∃ rest, unserReadExact chunks n = .ok (chunks.flatten.take n, rest) ∧ rest.flatten = chunks.flatten.drop n) ∧
    (chunks.flatten.length < n → unserReadExact chunks n = .error chunks.flatten.length) := by
  rw [unserReadExact_eq chunks n hne]
  refine ⟨fun hn => ?_, fun hn => ?_⟩
  · obtain ⟨rest, h, hf, _⟩ := readExact_ok chunks n [] hne hn
    exact ⟨rest, by rw [h, List.nil_append], hf⟩
  · rw [readExact_short chunks n [] hne hn, List.length_nil, Nat.zero_add]

/-- non-vacuity: 7 bytes in pieces of 1, 3, 2, 1; asking for 5 gives the first five and leaves the last two, asking for 9 fails
having got 7 -/
example : unserReadExact [[1], [2, 3, 4], [5, 6], [7]] 5 = .ok ([1, 2, 3, 4, 5], [[6], [7]]) ∧
    unserReadExact [[1], [2, 3, 4], [5, 6], [7]] 9 = .error 7 := ⟨rfl, rfl⟩

end ExecnetVerif
