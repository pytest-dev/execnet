/-
C04 — Connection loss at any byte never hangs or corrupts the survivor (protocol level; the byte
level — a cut at any byte offset yields exactly the complete frames — is in Props/C04Bytes.lean).
-/
import ExecnetVerif.Proofs.Net.Got
import ExecnetVerif.Proofs.Net.Fin
import ExecnetVerif.Props.C04Bytes        -- audited through this module (harness/obligations.json)
import ExecnetVerif.Props.NetGranularity  -- audited through this module
namespace ExecnetVerif
open Net

/-- **C04 (nothing blocks).** After the receiver of a side has finished — the connection broke after
any number of frames (`cut`), was terminated, or a callback raised after the IO had been closed (the
unwritable CLOSE_ERROR ends the receiver thread) — every `receive` and `waitclose` on every channel
object that side still holds returns or raises; none can block, now or later (`finished` is stable). -/
theorem C04_no_block {fails : Item → Bool} {st : State} (h : Reachable fails st) (p : Side) (id : Nat)
    (hf : (st.side p).finished = true) (ha : ((st.side p).chans id).alive = true) :
    (step fails st (.receive p id)).1 ≠ .wouldBlock ∧ (step fails st (.waitclose p id)).1 ≠ .wouldBlock :=
  Net.C04_no_block fails st p id (ShapeInv_reachable h) (FinInv_reachable h) hf ha

theorem C04_finished_stable (fails : Item → Bool) (st : State) (p : Side) (op : Op)
    (hf : (st.side p).finished = true) : ((step fails st op).2.side p).finished = true :=
  Net.finished_mono fails st op p hf

/-- **C04 (complete items, in order, then EOF).** What the survivor obtains are, in order and without
repetition, items the peer really sent (C02 holds in every reachable state, cut or not); once the
queued ones are consumed `receive` raises EOFError (C03_receive_at_end), and after a cut a `waitclose`
without a pending remote error raises EOFError too. -/
theorem C04_items_intact {fails : Item → Bool} {st : State} (h : Reachable fails st) (p : Side) (id : Nat) :
    List.Sublist ((st.side p).got id ++ queueItems ((st.side p).chans id).queue) ((st.side p.peer).sent id) :=
  got_queued_sublist_sent h p id

theorem C04_eof_after_cut (fails : Item → Bool) (st : State) (p : Side) (id : Nat)
    (hg : (st.side p).gwerr = true) (ha : ((st.side p).chans id).alive = true)
    (hr : ((st.side p).chans id).rclosed = true) (he : ((st.side p).chans id).rerrs = []) :
    (step fails st (.waitclose p id)).1 = .eofError :=
  Net.C04_eof_after_cut fails st p id hg ha hr he

theorem C04_cut_sets_error (fails : Item → Bool) (st : State) (p : Side) (hf : (st.side p).finished = false) :
    ((step fails st (.cut p)).2.side p).gwerr = true ∧ ((step fails st (.cut p)).2.side p).finished = true :=
  ⟨Net.gwerr_of_cut fails st p hf, Net.finished_of_cut fails st p hf⟩

/-- **C04 (refusal).** From then on `newchannel`, `remote_exec` and `send` raise OSError, the channel
and callback tables are empty, and the IO is closed. -/
theorem C04_refuse {fails : Item → Bool} {st : State} (h : Reachable fails st) (p : Side)
    (hf : (st.side p).finished = true) :
    (step fails st (.newchannel p)).1 = .osError ∧
    (p = .A → (step fails st .remoteExec).1 = .osError) ∧
    (∀ id v, (step fails st (.send p id v)).1 = .osError ∨ (step fails st (.send p id v)).1 = .notEnabled) ∧
    (st.side p).ioOpen = false ∧ (∀ id, ((st.side p).chans id).registered = false ∧ (st.side p).cbs id = none) := by
  have hfi := FinInv_reachable h
  obtain ⟨h1, h2, h3⟩ := Net.C04_refuse fails st p hfi hf
  have := hfi p hf
  exact ⟨h1, h2, h3, this.1, fun id => ⟨(this.2 id).1, (this.2 id).2.1⟩⟩

/-- **C04 (callbacks get their endmarker).** A callback that requested an endmarker has received it
once the receiver finished (the epilogue ends every conversation that still had a callback). -/
theorem C04_callbacks_end (x : SideSt) (isCut : Bool) (id : Nat) (hc : x.cbs id = some true) :
    CbEvent.endmarker ∈ (epilogue x isCut).cbLog id ∧ (epilogue x isCut).cbs id = none := by
  simp [epilogue, hc]

/-! non-vacuity: the connection is cut while an item is queued and another is still in flight -/
example : ((run (fun _ => false) init [.remoteExec, .deliver .B, .send .B 1 ⟨7, []⟩, .send .B 1 ⟨8, []⟩,
      .deliver .A, .cut .A, .receive .A 1, .receive .A 1, .waitclose .A 1, .newchannel .A, .send .A 1 ⟨9, []⟩]).1
    = [.chan 1, .ok, .ok, .ok, .ok, .ok, .item ⟨7, []⟩, .eofError, .eofError, .osError, .osError]) := by decide

end ExecnetVerif
