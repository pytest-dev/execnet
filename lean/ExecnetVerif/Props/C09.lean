/-
C09 — WorkerPool runs every accepted task exactly once and reports truthfully.

All theorems quantify over every `Reachable` state of the thread-level model of the FIXED protocol
(`c.old = false`), i.e. over every interleaving of any number of client threads making any sequence of
`spawn` / `trigger_shutdown` / `waitall` / `Reply.get` calls, the primary thread and the worker threads.
`Protocol c` is the hypothesis the property text states for `main_thread_only` pools with a primary thread
(the spawner submits the next task only after the previous body has returned); it is needed for the progress
theorems only — the safety theorems hold for arbitrary clients.
The last four theorems (`C09_start_failure_pinned` … `C09_start_failure_counterexample`) are about the separate model `Model/SpawnFail.lean` of a `start` that
fails (invariant in `Proofs/SpawnFailLemmas.lean`).
-/
import ExecnetVerif.Proofs.PoolProgress
import ExecnetVerif.Proofs.PoolMeasure
import ExecnetVerif.Proofs.SpawnFailLemmas
namespace ExecnetVerif
open Pool

/-- **C09 (at most once).** No task body is ever begun twice, and only accepted tasks are begun: the list of
body starts has no duplicates in any reachable state. -/
theorem C09_at_most_once {c : Config} {s : State} (hc : c.old = false) (h : Reachable c s) :
    s.started.Nodup ∧ ∀ t, t ∈ s.started → t ∈ s.accepted := by
  have inv := inv_reachable hc h
  exact ⟨inv.staND, fun t ht => (inv.acc t).2 (begun_ne_unused ((inv.sta t).1 ht))⟩

/-- who is responsible for an accepted task -/
inductive Holder where
  | mailbox                      -- `_primary_thread_task is reply`, event set, primary thread still in its loop
  | primaryHands                 -- the primary thread is inside `_perform_spawn(reply)`
  | workerThread                 -- a thread started by `execmodel.start(self._perform_spawn, (reply,))`
  | blockedSpawner (i : Uid)     -- its spawner holds the lock inside `_try_send_to_primary_thread` (main_thread_only)
  | finished                     -- body ended and the reply was removed from `_running`
  deriving DecidableEq

/-- `Holds s t h`: in state `s` the shared variables really make `h` responsible for task `t` -/
def Holds (s : State) (t : TaskId) : Holder → Prop
  | .mailbox => s.phase t = .inMbox ∧ s.mbox = some t ∧ s.ready = true ∧ s.pp ≠ .left ∧ s.pp ≠ .gone
  | .primaryHands => s.pp = .run t ∧ primExec (s.phase t) = true
  | .workerThread => s.prim t = false ∧ (s.phase t = .created ∨ primExec (s.phase t) = true) ∧ s.pp ≠ .run t
  | .blockedSpawner i => s.phase t = .pending ∧ s.lock = some (.user i) ∧ ∃ m, s.us i = .spawnWait t m
  | .finished => s.phase t = .done ∧ t ∈ s.finished ∧ t ∉ s.running

/-- **C09 (nothing is lost, nothing is duplicated).** In every reachable state every task `spawn` accepted has
exactly one holder — the mailbox (with the event set and the primary thread still looping), the primary
thread's hands, its own worker thread, a spawner blocked with the lock held, or "finished" — and it is in
`_running` exactly as long as it is not finished. In particular no accepted task is ever dropped. -/
theorem C09_accept_inv {c : Config} {s : State} (hc : c.old = false) (h : Reachable c s) (t : TaskId)
    (ht : t ∈ s.accepted) :
    (∃ hd, Holds s t hd) ∧ (∀ h1 h2, Holds s t h1 → Holds s t h2 → h1 = h2) ∧
    (t ∈ s.running ↔ ¬ Holds s t .finished) := by
  have inv := inv_reachable hc h
  have hne := (inv.acc t).1 ht
  refine ⟨?_, ?_, ?_⟩
  · cases hp : s.phase t with
    | unused => exact absurd hp hne
    | pending =>
      obtain ⟨i, m, hi⟩ := inv.pend t hp
      exact ⟨.blockedSpawner i, hp, (inv.lockU i).2 (by simp [hi, holdsLock]), m, hi⟩
    | inMbox => exact ⟨.mailbox, hp, (inv.inMb t hp).1, (inv.inMb t hp).2, inv.inMbox_loop hp⟩
    | created =>
      exact ⟨.workerThread, inv.workOf t hp, .inl hp, inv.not_run_of_worker (inv.workOf t hp)⟩
    | done => exact ⟨.finished, hp, inv.done hp⟩
    | inHand =>
      exact ⟨.primaryHands, inv.run_of_primExec (inv.primOf t (by simp [hp])) (by simp [hp, primExec]),
        by simp [hp, primExec]⟩
    | body | ended | resReady | removing =>
      cases hpr : s.prim t
      · exact ⟨.workerThread, hpr, .inr (by simp [hp, primExec]), inv.not_run_of_worker hpr⟩
      · exact ⟨.primaryHands, inv.run_of_primExec hpr (by simp [hp, primExec]), by simp [hp, primExec]⟩
  · -- different holders need different phases, or differ on `pp = run t`; two blocked spawners share the lock
    intro h1 h2 a b
    have := inv.primRun t
    cases h1 <;> cases h2 <;> simp only [Holds] at a b <;> grind [primExec]
  · simp only [Holds]
    constructor
    · intro hr hf; exact hf.2.2 hr
    · intro hf
      exact Classical.byContradiction fun hr =>
        have hp := inv.done_of_not_running hne hr
        hf ⟨hp, inv.done hp⟩

/-- **C09 (get reports the body's outcome).** `Reply.get` / `waitfinish` returns (other than by time-out) only
after the task's body has ended — `Reply.run` stores the value or the exception before it sets the event — and
a timed-out `get` changes nothing but the caller's own state: the task is not cancelled. -/
theorem C09_reply_truth {c : Config} {s : State} (hc : c.old = false) (h : Reachable c s) (i : Uid) (t : TaskId)
    (hg : s.us i = .getRet t true) : t ∈ s.finished ∧ t ∈ s.started ∧ t ∈ s.accepted := by
  have inv := inv_reachable hc h
  have h1 := begun_of_bodyEnded (inv.getR i t hg)
  exact ⟨(inv.fin t).2 (inv.getR i t hg), (inv.sta t).2 h1, (inv.acc t).2 (begun_ne_unused h1)⟩

theorem C09_timeout_no_cancel {c : Config} {s s' : State} {i : Uid} (hs : step c s (.user i, .getTimeout) = some s') :
    s'.phase = s.phase ∧ s'.running = s.running ∧ s'.accepted = s.accepted ∧ s'.mbox = s.mbox ∧
    s'.ready = s.ready ∧ s'.pp = s.pp ∧ s'.lock = s.lock ∧ ∃ t, s.us i = .getWait t true ∧ s'.us i = .getRet t false := by
  simp only [step, userStep] at hs
  split at hs
  next t hi =>
    split at hs <;> cases hs
    exact ⟨rfl, rfl, rfl, rfl, rfl, rfl, rfl, t, hi, upd_self ..⟩
  · cases hs

/-- **C09 (waitall tells the truth, and is woken).** If `waitall` (or `terminate`) is about to return `True`
then every task that had been accepted when the caller took the lock has finished and left `_running`; if
moreover shutdown had already been triggered at that moment (as in `terminate`) then `_running` is empty
and every accepted task has finished at the moment of the return. Conversely a registered waiter never
misses the wake-up: whenever `_running` is empty its event is set, so it can return. -/
theorem C09_waitall_truth {c : Config} {s : State} (hc : c.old = false) (h : Reachable c s) (i : Uid) :
    (s.us i = .waRet true → ∀ t, t ∈ s.wsnap i → t ∈ s.finished ∧ t ∉ s.running) ∧
    (s.us i = .waRet true → s.wshut i = true → s.running = [] ∧ ∀ t, t ∈ s.accepted → t ∈ s.finished) ∧
    (∀ b, s.us i = .waWait b → s.running = [] → s.wev i = true) := by
  have inv := inv_reachable hc h
  have key : s.us i = .waRet true → ∀ t, t ∈ s.wsnap i → t ∈ s.finished ∧ t ∉ s.running :=
    fun hr t ht => inv.done (inv.wtrueR i hr t ht)
  refine ⟨key, ?_, ?_⟩
  · intro hr hsh
    have h1 := inv.wsh i (by simp [hr, inWa]) hsh
    have hall : ∀ t, t ∈ s.accepted → t ∈ s.finished ∧ t ∉ s.running :=
      fun t ht => key hr t (h1.2 t ((inv.acc t).1 ht))
    refine ⟨?_, fun t ht => (hall t ht).1⟩
    exact List.eq_nil_iff_forall_not_mem.2 fun t hmem =>
      (hall t ((inv.acc t).2 (live_ne_unused ((inv.run t).1 hmem)))).2 hmem
  · intro b hw hrun
    cases hwe : s.wev i with
    | true => rfl
    | false => exact absurd hrun (inv.wlost i b hw hwe).2

/-- the ghost snapshot used by `C09_waitall_truth` is what it claims to be: the tasks accepted, and the
shutdown flag, at the moment the `waitall` caller takes the lock -/
theorem C09_waitall_snapshot {c : Config} {s s' : State} {i : Uid} {b : Bool}
    (hs : step c s (.user i, .waAcq b) = some s') : s'.wsnap i = s.accepted ∧ s'.wshut i = s.shut := by
  simp only [step, userStep] at hs
  split at hs
  · cases hs; simp [upd]
  · cases hs

/-- **C09 (spawn after shutdown is refused).** Once `_shuttingdown` is set, the check inside `spawn` raises
ValueError and accepts nothing; more generally no step at all accepts a task or clears the flag any more. -/
theorem C09_spawn_refused {c : Config} {s s' : State} (hsh : s.shut = true) :
    (∀ i, step c s (.user i, .spawnCheck) = some s' → s'.us i = .refusedRet ∧ s'.accepted = s.accepted ∧
      s'.running = s.running ∧ s'.phase = s.phase) ∧
    (∀ a, step c s a = some s' → s'.shut = true ∧ s'.accepted = s.accepted) := by
  refine ⟨?_, fun a hs => ⟨(step_shut hs hsh).1, (step_shut hs hsh).2.1⟩⟩
  intro i hs
  simp only [step, userStep, hsh] at hs
  split at hs
  · simp at hs; cases hs; simp [upd]
  · cases hs

/-- **C09 (no lost wake-up, no deadlock).** As long as some accepted task's body has not ended, some thread
has an enabled step that is neither the expiry of a time-out nor the start of a new API call: the pool can
always make progress on its own. -/
theorem C09_no_stuck {c : Config} {s : State} (hc : c.old = false) (hp : Protocol c) (h : Reachable c s)
    (hu : ∃ t, t ∈ s.accepted ∧ t ∉ s.finished) : Progress c s := by
  have inv := inv_reachable hc h
  obtain ⟨t, hacc, hfin⟩ := hu
  have hne := (inv.acc t).1 hacc
  have hnf : ¬ bodyEnded (s.phase t) = true := fun hb => hfin ((inv.fin t).2 hb)
  by_cases hpe : s.phase t = .pending
  · -- the blocked spawner, or the task it waits for, moves
    obtain ⟨i, m, hi⟩ := inv.pend t hpe
    exact swait_progress inv (swait_gated inv hp i t m hi) i t m hi
  by_cases hmb : s.phase t = .inMbox
  · -- the primary thread is on its way to the mailbox
    exact prim_progress inv hp (inv.inMbox_loop hmb).2 fun _ => (inv.inMb t hmb).2
  · -- past the mailbox, body not ended: the executor moves
    exact exec_progress inv t (by revert hne hnf hpe hmb; cases s.phase t <;> simp [bodyEnded])

/-- **C09 (the primary thread leaves, and only after shutdown).** The primary thread is outside its loop only
if shutdown was triggered, and then no task is left in the mailbox or with a blocked spawner; and once
shutdown is triggered and `_running` is empty, the primary thread has either returned from
`integrate_as_primary_thread` or some step (its own, or the lock holder's) is enabled. -/
theorem C09_primary_leaves {c : Config} {s : State} (hc : c.old = false) (hp : Protocol c) (h : Reachable c s)
    (hprim : c.primary = true) :
    ((s.pp = .left ∨ s.pp = .gone) → s.shut = true ∧ ∀ t, t ∈ s.accepted → ¬ bodyEnded (s.phase t) = true →
        (s.phase t = .created ∨ s.phase t = .body) ∧ s.prim t = false) ∧
    (s.shut = true → s.pp = .gone ∨ Progress c s) := by
  have inv := inv_reachable hc h
  constructor
  · intro hl
    have h1 := inv.leftInv hl
    refine ⟨(h1.2 hprim).1, fun t hacc hnb => ?_⟩
    -- of the five holders only a worker thread is possible once the primary thread has left
    obtain ⟨hd, hh⟩ := (C09_accept_inv hc h t hacc).1
    cases hd with
    | mailbox => exact absurd hh.1 (h1.1 t).1
    | blockedSpawner i => exact absurd hh.1 (h1.1 t).2
    | finished => exact absurd (by simp [hh.1, bodyEnded]) hnb
    | primaryHands => have := hh.1; rcases hl with hl | hl <;> simp [hl] at this
    | workerThread =>
      refine ⟨?_, hh.1⟩
      have := inv.primOf t
      rcases hh.2.1 with hx | hx
      · exact .inl hx
      · revert hx hnb this; cases s.phase t <;> simp [primExec, bodyEnded, hh.1]
  · intro hsh
    by_cases hg : s.pp = .gone
    · exact Or.inl hg
    · refine Or.inr (prim_progress inv hp hg ?_)
      intro _
      cases hr : s.ready with
      | true => rfl
      | false => have := (inv.notReady hr hprim).2; simp [hsh] at this

/-- **C09 (well-founded progress).** With `N` a bound on the client-thread and task ids in use, every step that
is not the start of a new API call (time-out expiries included) strictly decreases the natural number
`measure N` (a weighted count of the work left in the calls in flight, the accepted tasks and the primary
thread's loop) and keeps `N` a bound. -/
theorem C09_measure {c : Config} {s s' : State} {a : Agent × Action} {N : Nat} (hc : c.old = false)
    (h : Reachable c s) (hb : Bounded N s) (hcall : a.2.isCall = false) (hs : step c s a = some s') :
    measure N s' < measure N s ∧ Bounded N s' :=
  measure_step hc (inv_reachable hc h) hb hcall hs

/-- hence a run without new calls is at most `measure N s` steps long: under ANY scheduler that keeps running
enabled threads the pool reaches, after finitely many steps, a state where no such step is enabled … -/
theorem C09_finite_run {c : Config} {s s' : State} {N : Nat} (hc : c.old = false) (l : List (Agent × Action))
    (h : Reachable c s) (hb : Bounded N s) (hall : ∀ a, a ∈ l → a.2.isCall = false)
    (hr : runSteps c s l = some s') : l.length + measure N s' ≤ measure N s :=
  measure_run hc l h hb hall hr

/-- … and in such a quiescent state every accepted task's body has ended, every `waitall` caller whose wait can
succeed has been woken, and — after shutdown — the primary thread has returned (`C09_no_stuck` and
`C09_primary_leaves` read contrapositively). -/
theorem C09_quiescent {c : Config} {s : State} (hc : c.old = false) (hp : Protocol c) (h : Reachable c s)
    (hq : ¬ Progress c s) :
    (∀ t, t ∈ s.accepted → t ∈ s.finished) ∧ (c.primary = true → s.shut = true → s.pp = .gone) ∧
    (∀ i b, s.us i = .waWait b → s.wev i = false → s.running ≠ []) := by
  refine ⟨fun t ht => ?_, fun hprim hsh => ?_, fun i b hw he => ?_⟩
  · exact Classical.byContradiction fun hf => hq (C09_no_stuck hc hp h ⟨t, ht, hf⟩)
  · rcases (C09_primary_leaves hc hp h hprim).2 hsh with hg | hg
    · exact hg
    · exact absurd hg hq
  · exact ((inv_reachable hc h).wlost i b hw he).2

def oldCfg : Config := { primary := true, mto := false, gated := false, old := true }
def newCfg : Config := { primary := true, mto := false, gated := false, old := false }

/-- `spawn(f)` returns, `trigger_shutdown()` returns, then the primary thread wakes up -/
def lostTaskSchedule : List (Agent × Action) :=
  [(.user 0, .spawnAcq 0), (.user 0, .spawnCheck), (.user 0, .spawnRelease), (.user 0, .spawnReturn),
   (.user 1, .shutAcq), (.user 1, .shutDo), (.user 1, .shutReturn),
   (.primary, .pWait), (.primary, .pRead), (.primary, .pLeave)]

/-- **D9, the pinned tree.** Under the OLD protocol the schedule above is executable and ends in a state where
task 0 is accepted and still in `_running`, was never started, the primary thread has returned, the lock is
free and every client thread is idle: the task is lost (a following `waitall(5)` can only time out). -/
theorem C09_pinned_counterexample :
    ∃ s, runSteps oldCfg (init oldCfg) lostTaskSchedule = some s ∧ 0 ∈ s.accepted ∧ 0 ∈ s.running ∧ 0 ∉ s.started ∧
      s.pp = .gone ∧ s.lock = none ∧ s.mbox = none ∧ s.phase 0 = .inMbox ∧ ∀ i, s.us i = .idle := by
  refine ⟨_, rfl, by decide, by decide, by decide, rfl, rfl, rfl, rfl, fun i => ?_⟩
  -- `us` is `fun _ => .idle` updated at 0 and 1, last to `.idle`
  simp only [upd]
  split
  · rfl
  · split
    · rfl
    · simp [*, init]

/-- the same calls under the fixed protocol: `trigger_shutdown` leaves the set mailbox alone, the primary
thread runs task 0, then leaves (also the non-vacuity witness of the theorems above: a reachable state with an
accepted, started, finished task, `_shuttingdown` set and the primary thread gone) -/
def fixedSchedule : List (Agent × Action) :=
  [(.user 0, .spawnAcq 0), (.user 0, .spawnCheck), (.user 0, .spawnRelease), (.user 0, .spawnReturn),
   (.user 1, .shutAcq), (.user 1, .shutDo), (.user 1, .shutReturn),
   (.primary, .pWait), (.primary, .pRead), (.primary, .tBegin 0), (.primary, .tEnd 0), (.primary, .tSetReady 0),
   (.primary, .tRemAcq 0), (.primary, .tRemove 0), (.primary, .pChkAcq), (.primary, .pCheck), (.primary, .pLeave)]

theorem C09_fixed_witness :
    ∃ s, Reachable newCfg s ∧ s.accepted = [0] ∧ s.started = [0] ∧ s.finished = [0] ∧ s.running = [] ∧
      s.shut = true ∧ s.pp = .gone := by
  exact ⟨_, reachable_runGet newCfg fixedSchedule rfl, rfl, rfl, rfl, rfl, rfl, rfl⟩

/-- non-vacuity of `C09_no_stuck`: right after `spawn` returned and `trigger_shutdown` returned (the state in
which the pinned tree loses the task) the hypotheses hold and the enabled step is the primary thread's -/
example : ∃ s, Reachable newCfg s ∧ (∃ t, t ∈ s.accepted ∧ t ∉ s.finished) ∧ s.shut = true ∧ Protocol newCfg :=
  ⟨_, reachable_runGet newCfg (lostTaskSchedule.take 7) rfl, ⟨0, by decide, by decide⟩, rfl,
    fun _ h => by simp [newCfg] at h⟩

/-- non-vacuity of `C09_measure`: the initial state is bounded, and along the fixed schedule the measure (bound
`N = 2`) goes 3 → 20 (call started) → 17 (check inside `spawn`) → … → 0 at the end (everybody idle, task done,
primary thread gone) -/
example : Bounded 2 (init newCfg) ∧ measure 2 (init newCfg) = 3 ∧
    measure 2 (runGet newCfg (fixedSchedule.take 1) rfl) = 20 ∧
    measure 2 (runGet newCfg (fixedSchedule.take 2) rfl) = 17 ∧
    measure 2 (runGet newCfg fixedSchedule rfl) = 0 :=
  ⟨bounded_init _ _, rfl, rfl, rfl, rfl⟩

/-- non-vacuity of the `main_thread_only` hand-over (a spawner blocked in `waitfinish()` with the lock held) -/
example : ∃ s, Reachable { primary := true, mto := true, gated := true, old := false } s ∧
    s.us 0 = .spawnWait 1 0 ∧ s.phase 1 = .pending ∧ s.lock = some (.user 0) :=
  ⟨_, reachable_runGet _
      [(.user 0, .spawnAcq 0), (.user 0, .spawnCheck), (.user 0, .spawnRelease), (.user 0, .spawnReturn),
       (.primary, .pWait), (.primary, .pRead), (.primary, .tBegin 0), (.primary, .tEnd 0),
       (.user 0, .spawnAcq 1), (.user 0, .spawnCheck)] rfl, rfl, rfl, rfl⟩

/-- how the current source treats a failing `execmodel.start` inside `spawn` (the handler drops the reply from `_running`
and re-raises) and the order registration → primary hand-over → thread start, read off `WorkerPool.spawn` by the translator -/
theorem C09_start_failure_pinned :
    SpawnFail.codeCfg = SpawnFail.good ∧
    Generated.spawnOrder = ["self._running.add", "self._try_send_to_primary_thread", "self.execmodel.start"] :=
  ⟨rfl, rfl⟩

/-- **C09 (waitall after a refused start).** Whatever mixture of successful spawns, spawns whose thread could not be
started, finished calls and shutdowns came before: `_running` counts accepted, unfinished calls only — so once every accepted
call has come to its end `waitall()` is true (and `terminate()` with it). -/
theorem C09_refused_start_not_counted (ops : List SpawnFail.Op) :
    (∀ r, r ∈ (SpawnFail.run SpawnFail.codeCfg SpawnFail.init ops).2.running →
        r ∈ (SpawnFail.run SpawnFail.codeCfg SpawnFail.init ops).2.accepted ∧
        r ∉ (SpawnFail.run SpawnFail.codeCfg SpawnFail.init ops).2.finished) ∧
    ((∀ r, r ∈ (SpawnFail.run SpawnFail.codeCfg SpawnFail.init ops).2.accepted →
        r ∈ (SpawnFail.run SpawnFail.codeCfg SpawnFail.init ops).2.finished) →
      SpawnFail.waitallTrue (SpawnFail.run SpawnFail.codeCfg SpawnFail.init ops).2 = true) := by
  rw [C09_start_failure_pinned.1]
  have h := SpawnFail.inv_run SpawnFail.init SpawnFail.inv_init ops
  generalize (SpawnFail.run SpawnFail.good SpawnFail.init ops).2 = p at *
  refine ⟨fun r hr => ⟨h.counted r hr, h.unfinished r hr⟩, ?_⟩
  intro hall
  have hr : p.running = [] :=
    List.eq_nil_iff_forall_not_mem.2 fun r hm => h.unfinished r hm (hall r (h.counted r hm))
  simp [SpawnFail.waitallTrue, hr]

/-- a refused start changes nothing but the reply counter: the pool is as it was -/
theorem C09_refused_start_inert (p : SpawnFail.P) (hs : p.shut = false) :
    (SpawnFail.step SpawnFail.codeCfg p (.spawn false)).1 = .startError ∧
    (SpawnFail.step SpawnFail.codeCfg p (.spawn false)).2 = { p with next := p.next + 1 } := by
  rw [C09_start_failure_pinned.1]
  simp [SpawnFail.step, SpawnFail.good, hs]

/-- the pinned tree (no handler around `start`): after ONE spawn whose thread could not be started — the call was refused,
nothing is accepted — `waitall()` is false and stays false whatever happens afterwards (defect D34) -/
theorem C09_start_failure_counterexample (ops : List SpawnFail.Op) :
    (SpawnFail.step SpawnFail.pinned SpawnFail.init (.spawn false)).1 = .startError ∧
    SpawnFail.waitallTrue (SpawnFail.run SpawnFail.pinned SpawnFail.init (.spawn false :: ops)).2 = false := by
  refine ⟨by decide, ?_⟩
  have h := SpawnFail.ghost_stays (SpawnFail.step SpawnFail.pinned SpawnFail.init (.spawn false)).2 0
    (by decide) (by decide) (by decide) ops
  simp only [SpawnFail.run]
  generalize (SpawnFail.run SpawnFail.pinned (SpawnFail.step SpawnFail.pinned SpawnFail.init (.spawn false)).2 ops).2 = q at *
  cases hq : q.running with
  | nil => rw [hq] at h; exact absurd h (by simp)
  | cons a l => simp [SpawnFail.waitallTrue, hq]

/-- non-vacuity: a history with a refused start between two accepted calls, both finished — `waitall()` is true with the
guard and false without it -/
example :
    let ops := [SpawnFail.Op.spawn true, .spawn false, .spawn true, .finish 0, .finish 2]
    (SpawnFail.run SpawnFail.good SpawnFail.init ops).1 = [.reply 0, .startError, .reply 2, .done, .done] ∧
    SpawnFail.waitallTrue (SpawnFail.run SpawnFail.good SpawnFail.init ops).2 = true ∧
    SpawnFail.waitallTrue (SpawnFail.run SpawnFail.pinned SpawnFail.init ops).2 = false := by
  decide

end ExecnetVerif
