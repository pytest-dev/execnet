/-
C06 — remote_exec runs exactly the given code with a live channel and clean stdio.
The channel's life cycle belongs to the `Net` model; that `close` is refused while the body runs is its definition of
`chanClose`, no theorem is stated for it.
-/
import ExecnetVerif.Proofs.RemoteExecLemmas
import ExecnetVerif.Props.C01
namespace ExecnetVerif
open RemoteExec

/-- **C06 (decision).** `remote_exec(function)` gets past the local check exactly when the function is not a
lambda, its first positional parameter is called `channel`, it has no closure, its source can be found,
and every `ast.Name` in its source is a local of the function or a key of `builtins.__dict__`. -/
theorem C06_accept_iff (bi : List String) (f : FuncInfo) :
    remoteExecCheck bi f = .ok () ↔
      f.name ≠ "<lambda>" ∧ f.args.head? = some "channel" ∧ f.hasClosure = false ∧ f.hasSource = true
      ∧ ∀ n ∈ f.names, n ∈ f.varnames ∨ n ∈ bi := by
  simp [remoteExecCheck_eq, ite_eq_iff, usedGlobals_eq_nil, Decidable.or_iff_not_imp_left]

/-- which error, in the order the code tests: lambda, then the first parameter, then the closure; the globals come
last (the error lists every offending occurrence in source order) -/
theorem C06_reject_order (bi : List String) (f : FuncInfo) :
    (f.name = "<lambda>" → remoteExecCheck bi f = .error .lambda)
    ∧ (f.name ≠ "<lambda>" → f.args.head? ≠ some "channel" → remoteExecCheck bi f = .error .firstArg)
    ∧ (f.name ≠ "<lambda>" → f.args.head? = some "channel" → f.hasClosure = true →
        remoteExecCheck bi f = .error .closure)
    ∧ (∀ names, remoteExecCheck bi f = .error (.globals names) → names = usedGlobals bi f ∧ names ≠ []) := by
  refine ⟨?_, ?_, ?_, ?_⟩
  · intro h; simp [remoteExecCheck, h]
  · intro h1 h2; simp [remoteExecCheck, h1, h2]
  · intro h1 h2 h3; simp [remoteExecCheck, h1, h2, h3]
  · intro names h
    simp [remoteExecCheck_eq, ite_eq_iff] at h
    obtain ⟨_, _, _, _, hne, rfl⟩ := h
    exact ⟨rfl, hne⟩

/-- **C06 (rejected before anything is sent).** `remote_exec` is check · newchannel · send.  Whenever it
raises, no frame has been written; when it raises ValueError (purity check) or TypeError (kwargs with a
source string or a module) the channel table and the id counter are untouched as well.  (The one error
after `newchannel` is DumpError for an unserialisable kwarg: an id is consumed, still nothing is sent.) -/
theorem C06_reject_before_send (bi : List String) (g : Gw) (src : Source) (kw : List (PyVal × PyVal))
    (e : Err) (h : (remoteExec bi g src kw).2 = .error e) :
    (remoteExec bi g src kw).1.wire = g.wire
    ∧ (e ≠ .dump → (remoteExec bi g src kw).1 = g) := by
  rcases remoteExec_cases bi g src kw with ⟨e', h'⟩ | h' | ⟨_, h'⟩ <;> rw [h'] at h ⊢
  · exact ⟨rfl, fun _ => rfl⟩
  · cases h; exact ⟨rfl, fun h => absurd rfl h⟩
  · cases h

/-- kwargs with a source string or a module: TypeError, nothing allocated, nothing sent -/
theorem C06_kwargs_need_function (bi : List String) (g : Gw) (kw : List (PyVal × PyVal)) (hkw : kw ≠ []) :
    (∀ s, remoteExec bi g (.text s) kw = (g, .error .type))
    ∧ (∀ t f, remoteExec bi g (.module t f) kw = (g, .error .type)) := by
  constructor
  · intro s; simp [remoteExec, prepare, hkw]
  · intro t f; simp [remoteExec, prepare, hkw]

/-- an accepted call allocates exactly one channel (the next id, ids advance by two) and writes exactly
one EXEC frame, for that channel, after everything written before -/
theorem C06_accept_sends_once (bi : List String) (g : Gw) (src : Source) (kw : List (PyVal × PyVal))
    (id : Nat) (h : (remoteExec bi g src kw).2 = .ok id) :
    id = g.count ∧ (remoteExec bi g src kw).1.count = g.count + 2
    ∧ (remoteExec bi g src kw).1.channels = id :: g.channels
    ∧ ∃ b, (remoteExec bi g src kw).1.wire = g.wire ++ [(id, b)] := by
  rcases remoteExec_cases bi g src kw with ⟨e', h'⟩ | h' | ⟨b, h'⟩ <;> rw [h'] at h ⊢ <;> cases h
  exact ⟨rfl, rfl, rfl, b, rfl⟩

/-- **C06 (soundness of the purity check).** Let `globalRefs` be the global names any part of the function
reads.  Given the two facts the harness validates on every generated shape — each global read is an
`ast.Name` node of the source, and no global read coincides with a local of the outer function — a
function that reads a non-builtin global never passes. -/
theorem C06_sound_globals (bi : List String) (f : FuncInfo) (globalRefs : List String)
    (hnames : ∀ g ∈ globalRefs, g ∈ f.names) (hdisj : ∀ g ∈ globalRefs, g ∉ f.varnames)
    (g : String) (hg : g ∈ globalRefs) (hb : g ∉ bi) : remoteExecCheck bi f ≠ .ok () := by
  intro hok
  have := ((C06_accept_iff bi f).1 hok).2.2.2.2 g (hnames g hg)
  cases this with
  | inl h => exact hdisj g hg h
  | inr h => exact hb h

/-- **C06 (line numbers).** The text shipped for a function has as many lines as the file up to the end of
the function, and line `firstlineno + k` of it is line `k` of the function's source with the common
indentation removed — for every line `k`, whatever the indentation and position of the function. -/
theorem C06_lines (f : FuncInfo) (k : Nat) (hk : k < f.srcLines.length) :
    (shippedLines f)[f.firstlineno - 1 + k]? = some (dedentLine f.margin f.srcLines[k])
    ∧ (∀ j, j < f.firstlineno - 1 → (shippedLines f)[j]? = some "")
    ∧ (shippedLines f).length = f.firstlineno - 1 + f.srcLines.length := by
  refine ⟨?_, ?_, shippedLines_length f⟩
  · simp only [shippedLines]
    rw [List.getElem?_append_right (by simp)]
    simp [hk]
  · intro j hj
    simp only [shippedLines]
    rw [List.getElem?_append_left (by simpa using hj)]
    simp [hj]

/-- The same against the file: if the source lines are the file's lines from `co_firstlineno` on (what
`inspect.getsource` returns), 1-based line `L` of the shipped text is the dedented 1-based line `L` of the file, for
every line of the function: tracebacks raised remotely carry the original line numbers. -/
theorem C06_lines_file (f : FuncInfo) (file : List String) (h1 : 1 ≤ f.firstlineno)
    (hsrc : f.srcLines = (file.drop (f.firstlineno - 1)).take f.srcLines.length)
    (L : Nat) (hlo : f.firstlineno ≤ L) (hhi : L < f.firstlineno + f.srcLines.length) :
    ∃ line, file[L - 1]? = some line ∧ (shippedLines f)[L - 1]? = some (dedentLine f.margin line) := by
  have hk : L - f.firstlineno < f.srcLines.length := by omega
  have h := (C06_lines f (L - f.firstlineno) hk).1
  have hidx : f.firstlineno - 1 + (L - f.firstlineno) = L - 1 := by omega
  rw [hidx] at h
  refine ⟨f.srcLines[L - f.firstlineno], ?_, h⟩
  have e := List.getElem?_of_eq_take_drop file (f.firstlineno - 1) f.srcLines.length f.srcLines hsrc _ hk
  rw [hidx] at e
  rw [← e]
  simp [hk]

/-- **C06 (kwargs by value).** What an accepted call writes is the internal serialisation of
`(source, file_name, call_name, kwargs)`; whenever that tuple is in the serializer's domain the worker's
`loads_internal` gives back exactly that tuple — the kwargs dict equal by value, type-exact, in order
(corollary of `C01_roundtrip_channel`). -/
theorem C06_kwargs_by_value (bi : List String) (g : Gw) (src : Source) (kw : List (PyVal × PyVal))
    (text : String) (file call : Option String) (hp : prepare bi src = .ok (text, file, call))
    (hcall : ¬(call = none ∧ kw ≠ [])) (hwf : WF (payload text file call kw))
    (cfg : Cfg) (hcfg : cfg.py3str_as_py2str = false) (hmem : cfg.memLimit = none) :
    ∃ b, (remoteExec bi g src kw) =
        ({ count := g.count + 2, channels := g.count :: g.channels, wire := g.wire ++ [(g.count, b)] }, .ok g.count)
      ∧ loadsInternal cfg b = .ok (payload text file call kw) := by
  obtain ⟨b, hb, hl⟩ := C01_roundtrip_channel cfg hcfg hmem _ hwf
  refine ⟨b, ?_, hl⟩
  simp [remoteExec, hp, hcall, hb]

/-- **C06 (stdio).** For *every* descriptor table of a freshly started popen worker in which 0 and 1 are the
two protocol pipes (whatever else is open or closed), after `init_popen_io`: the protocol is read from
and written to descriptors other than 0 and 1 (and distinct from each other) which refer to the original
pipes; descriptors 0 and 1 refer to the null device; `sys.stdin`/`sys.stdout` are files on 0 and 1; no
other descriptor changed and the temporary descriptors are closed again.  So whatever the remote code
prints or writes raw to fd 1 — of any size — goes to the null device and never into the protocol. -/
theorem C06_stdio (s : Fds) (hwf : s.WF) (h0 : s.get 0 = .pipeIn) (h1 : s.get 1 = .pipeOut) :
    (initPopenIO s).protoIn ≠ 0 ∧ (initPopenIO s).protoIn ≠ 1
    ∧ (initPopenIO s).protoOut ≠ 0 ∧ (initPopenIO s).protoOut ≠ 1
    ∧ (initPopenIO s).protoIn ≠ (initPopenIO s).protoOut
    ∧ (initPopenIO s).fds.get (initPopenIO s).protoIn = .pipeIn
    ∧ (initPopenIO s).fds.get (initPopenIO s).protoOut = .pipeOut
    ∧ (initPopenIO s).fds.get 0 = .devnullR ∧ (initPopenIO s).fds.get 1 = .devnullW
    ∧ (initPopenIO s).sysStdin = 0 ∧ (initPopenIO s).sysStdout = 1
    ∧ (∀ n, n ≠ 0 → n ≠ 1 → n ≠ (initPopenIO s).protoIn → n ≠ (initPopenIO s).protoOut →
        (initPopenIO s).fds.get n = s.get n)
    ∧ (initPopenIO s).fds.WF := by
  rw [initPopenIO_redirect]
  -- each round hands out a descriptor that was closed, hence none of those known to be open
  obtain ⟨w1, c1, g1, a1, o1⟩ := redirect_spec s hwf 0 .devnullR (by simp [h0])
  generalize redirect s 0 .devnullR = r1 at *
  have ha0 : r1.2 ≠ 0 := c1 0 (by simp [h0])
  have ha1 : r1.2 ≠ 1 := c1 1 (by simp [h1])
  have hr1 : r1.1.get 1 = .pipeOut := by rw [o1 1 (by decide) ha1.symm, h1]
  obtain ⟨w2, c2, g2, a2, o2⟩ := redirect_spec r1.1 w1 1 .devnullW (by simp [hr1])
  generalize redirect r1.1 1 .devnullW = r2 at *
  have hb0 : r2.2 ≠ 0 := c2 0 (by simp [g1])
  have hb1 : r2.2 ≠ 1 := c2 1 (by simp [hr1])
  have hba : r2.2 ≠ r1.2 := c2 _ (by simp [a1, h0])
  refine ⟨ha0, ha1, hb0, hb1, hba.symm, ?_, ?_, ?_, g2, rfl, rfl, ?_, w2⟩
  · show r2.1.get r1.2 = .pipeIn
    rw [o2 r1.2 ha1 hba.symm, a1, h0]
  · show r2.1.get r2.2 = .pipeOut
    rw [a2, hr1]
  · show r2.1.get 0 = .devnullR
    rw [o2 0 (by decide) hb0.symm, g1]
  · intro n n0 n1 na nb
    show r2.1.get n = s.get n
    rw [o2 n n1 nb, o1 n n0 na]

/-! ### non-vacuity -/

def exampleFunc : FuncInfo :=
  { name := "work", args := ["channel", "n"], hasClosure := false, hasSource := true,
    names := ["channel", "range", "n", "i", "channel", "i"], varnames := ["channel", "n", "i"],
    firstlineno := 7, margin := 4,
    srcLines := ["    def work(channel, n):", "        for i in range(n):", "            channel.send(i)", ""] }

example : remoteExecCheck ["range", "len"] exampleFunc = .ok () := by rfl
example : remoteExecCheck ["len"] exampleFunc = .error (.globals ["range"]) := by rfl
example : (shippedLines exampleFunc)[7]? = some "    for i in range(n):" := by decide +kernel
example : (remoteExec ["range"] ⟨1, [], []⟩ (.function exampleFunc (some "m.py")) [(.str "n", .int 3)]).2 = .ok 1 := by
  -- the kernel runs the serializer much faster than the elaborator's `rfl`; `Except Err Nat` has no `DecidableEq`,
  -- hence through `toOption`
  exact Except.eq_ok_of_toOption (by decide +kernel)
example : (remoteExec [] ⟨1, [], []⟩ (.function exampleFunc (some "m.py")) []).1 = ⟨1, [], []⟩ := by decide +kernel

/-- a table with gaps and extra descriptors meets the hypotheses of `C06_stdio` -/
def exampleFds : Fds :=
  ⟨fun n => if n = 0 then .pipeIn else if n = 1 then .pipeOut else if n = 2 then .other 2
            else if n = 5 then .other 5 else .closed, 6⟩

example : exampleFds.WF := by
  intro n hn; simp only [exampleFds] at hn ⊢
  have : n ≠ 0 ∧ n ≠ 1 ∧ n ≠ 2 ∧ n ≠ 5 := by omega
  simp [this]
example : (initPopenIO exampleFds).protoIn = 3 ∧ (initPopenIO exampleFds).protoOut = 4 := by decide

end ExecnetVerif
