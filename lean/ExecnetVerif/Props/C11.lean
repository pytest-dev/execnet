/-
C11 — Workers never outlive their initiator.  The model is `Model/WorkerExit.lean`.
-/
import ExecnetVerif.Model.WorkerExit
import ExecnetVerif.Generated.Tables
namespace ExecnetVerif
open WorkerExit

/-- a ladder from a table of time-outs (a missing / non-numeric time-out becomes `none` = unbounded) -/
def ladderOfTable (l : List Int) (fin : Nat) : Ladder :=
  { t5 := l[0]?.map Int.toNat, t10 := l[1]?.map Int.toNat, fin := fin }

/-- the ladder of the code under study: the two `waitall` time-outs as extracted from
`WorkerGateway._terminate_execution` -/
def codeLadder (fin : Nat) : Ladder := ladderOfTable Generated.exitLadderDeci fin

/-- `waitall(5.0)`; the model's clock ticks in tenths of a second -/
def T5 : Nat := 50
/-- `waitall(10.0)` -/
def T10 : Nat := 100

/-- **pinned constants**: `waitall(5.0)` then `waitall(10.0)` -/
theorem C11_ladder_pinned : Generated.exitLadderDeci = [50, 100] := rfl

/-- **pinned structure** of `_terminate_execution`: shutdown, bounded wait, SIGINT to self (or
`interrupt_main` on win32), bounded wait, `os._exit(1)` — no rung missing, in this order -/
theorem C11_ladder_steps_pinned : Generated.exitLadderSteps =
    [(0, "trigger_shutdown()"), (0, "waitall(5.0)"), (2, "kill(os.getpid(), 2)"), (3, "interrupt_main()"),
     (1, "waitall(10.0)"), (2, "_exit(1)")] := rfl

/-- **pinned reactions** the model transcribes: `serve` swallows KeyboardInterrupt, `executetask` re-raises
KeyboardInterrupt after closing the channel and ignores EOFError, `Reply.run` catches every BaseException,
the receiver's epilogue runs `_finished_receiving` before `_terminate_execution` before closing the io -/
theorem C11_handlers_pinned :
    Generated.serveHandlers = [("KeyboardInterrupt", false)] ∧
    Generated.executetaskHandlers = [("KeyboardInterrupt", true), ("BaseException", false)] ∧
    Generated.replyRunHandlers = [("BaseException", false)] ∧
    Generated.receiverEpilogue = ["_finished_receiving()", "_terminate_execution()", "close_read()",
      "close_write()", "trigger_shutdown()"] := ⟨rfl, rfl, rfl, rfl⟩

theorem codeLadder_eq (fin : Nat) : codeLadder fin = ⟨some T5, some T10, fin⟩ := by
  simp [codeLadder, ladderOfTable, C11_ladder_pinned, T5, T10]

/-- exit record predicted for each activity class: rung, exit status, time (`fin` = interpreter
finalisation time after `serve()` returned; `os._exit` needs none) -/
def expectedExit (fin : Nat) (a : Activity) (t0 : Nat) : Exit :=
  match a with
  | .idle => ⟨t0 + fin, 0, .clean⟩
  | .blockedInReceive => ⟨t0 + fin, 0, .clean⟩
  | .sleeping d => if d ≤ T5 then ⟨t0 + d + fin, 0, .clean⟩ else ⟨t0 + T5 + fin, 0, .sigint⟩
  | .busyInterruptible => ⟨t0 + T5 + fin, 0, .sigint⟩
  | .swallowsKeyboardInterrupt => ⟨t0 + T5 + T10, 1, .hardExit⟩
  | .extraDaemonThreads false => ⟨t0 + fin, 0, .clean⟩
  | .extraDaemonThreads true => ⟨t0 + T5 + fin, 0, .sigint⟩

-- the run is at most `fuel` steps of closed code: `simp` with the model's functions executes it symbolically
attribute [local simp] run fuel iter step init initMain initPoolBusy waitall running selfFinish rungOf
  interruptMain expectedExit in
/-- **C11 (rung).** For every activity class and every moment `t0` at which the connection ends, the
worker process exits, and it does so on exactly this rung of the ladder: idle workers, workers blocked in
`channel.receive()` and workers whose body ends within 5 s leave cleanly; sleeping / computing bodies are
ended by the SIGINT rung after 5 s (as is a worker whose pool is kept busy by a non-main thread, through
`serve`'s `except KeyboardInterrupt`); a body that swallows KeyboardInterrupt is ended by `os._exit(1)`
after 5 s + 10 s. -/
theorem C11_rung (fin : Nat) (a : Activity) (t0 : Nat) :
    (run (codeLadder fin) a t0).gone = some (expectedExit fin a t0) := by
  rw [codeLadder_eq]
  cases a with
  | sleeping d => by_cases h : d ≤ T5 <;> simp [h]
  | extraDaemonThreads b => cases b <;> simp
  | _ => simp

/-- only a body that swallows KeyboardInterrupt lives past the SIGINT rung -/
theorem expectedExit_time_le (fin : Nat) {a : Activity} (h : a ≠ .swallowsKeyboardInterrupt) (t0 : Nat) :
    (expectedExit fin a t0).time ≤ t0 + T5 + fin := by
  cases a with
  | swallowsKeyboardInterrupt => exact absurd rfl h
  | sleeping d => simp only [expectedExit]; split <;> simp only [] <;> omega
  | extraDaemonThreads b => cases b <;> simp only [expectedExit] <;> omega
  | _ => simp only [expectedExit] <;> omega

/-- **C11 (bound).** Whatever the worker is executing when its initiator goes away at `t0`, the worker
process is gone by `t0 + 5 s + 10 s + ε`, where ε is the interpreter's finalisation time after `serve()`
returned (`os._exit` needs none). -/
theorem C11_bound (fin : Nat) (a : Activity) (t0 : Nat) :
    ∃ e, (run (codeLadder fin) a t0).gone = some e ∧ e.time ≤ t0 + T5 + T10 + fin := by
  refine ⟨_, C11_rung fin a t0, ?_⟩
  by_cases h : a = .swallowsKeyboardInterrupt
  · subst h; simp only [expectedExit]; omega
  · have := expectedExit_time_le fin h t0; omega

theorem WorkerExit.waitall_bounded_isSome (s : St) (T : Nat) (a b : Pc) : (waitall s (some T) a b).isSome := by
  unfold waitall
  split
  · simp
  · cases selfFinish s with
    | none => simp
    | some f => simp only []; split <;> simp

/-- **C11 (no rung skipped).** With the code's time-outs, every state in which the process still exists
has an enabled timed successor — in any state whatsoever, reachable or not: the ladder cannot stop before
the process is gone (no unbounded wait anywhere on it). -/
theorem C11_no_rung_skipped (fin : Nat) (s : St) (h : s.gone = none) :
    (step (codeLadder fin) s).isSome := by
  rw [codeLadder_eq]
  obtain ⟨now, pc, main, poolBusy, sigintAt, gone⟩ := s
  simp only at h
  subst h
  cases pc <;> simp [step, waitall_bounded_isSome]

/-- every run is over (process gone) after at most `fuel` steps -/
theorem C11_reaches_exit (fin : Nat) (a : Activity) (t0 : Nat) :
    (run (codeLadder fin) a t0).gone.isSome := by
  rw [C11_rung]; rfl

/-- what a forwarding gateway's main thread can be doing: blocked in the pipe read (ended by SIGINT), or
ended `d` ticks later by a failing forward of a frame its sub-process wrote -/
def ForwarderLike (f : Activity) : Prop := f = .busyInterruptible ∨ ∃ d, f = .sleeping d

/-- **C11 (via chains).** A worker reached through forwarding gateways sees the end of its connection only
when the forwarder next to it is gone, and a forwarder is gone at the latest after its SIGINT rung: the
bound grows by 5 s (+ε) per hop. -/
theorem C11_via_bound (fin : Nat) (a : Activity) (fwd : List Activity) (hf : ∀ f ∈ fwd, ForwarderLike f)
    (t0 : Nat) :
    ∃ s e, runVia (codeLadder fin) fwd a t0 = some s ∧ s.gone = some e ∧
      e.time ≤ t0 + fwd.length * (T5 + fin) + T5 + T10 + fin := by
  induction fwd generalizing t0 with
  | nil =>
    obtain ⟨e, he, hb⟩ := C11_bound fin a t0
    exact ⟨_, e, rfl, he, by simpa using hb⟩
  | cons f fs ih =>
    -- a forwarder does not swallow KeyboardInterrupt: it is gone after its SIGINT rung
    have hb0 := expectedExit_time_le fin (a := f) (by rcases hf f (by simp) with rfl | ⟨d, rfl⟩ <;> simp) t0
    obtain ⟨s, e, hs, he, hb⟩ := ih (fun g hg => hf g (List.mem_cons_of_mem _ hg)) (expectedExit fin f t0).time
    refine ⟨s, e, ?_, he, ?_⟩
    · simp only [runVia, C11_rung]; exact hs
    · have : (fs.length + 1) * (T5 + fin) = fs.length * (T5 + fin) + (T5 + fin) := Nat.succ_mul _ _
      simp only [List.length_cons]
      omega

/-- the bound is tight: a body that swallows KeyboardInterrupt lives exactly 15 s; behind one forwarder 20 s -/
theorem C11_bound_tight :
    (run (codeLadder 0) .swallowsKeyboardInterrupt 7).gone = some ⟨7 + 150, 1, .hardExit⟩ ∧
    (runVia (codeLadder 0) [.busyInterruptible] .swallowsKeyboardInterrupt 7).map (·.gone) = some (some ⟨7 + 200, 1, .hardExit⟩) := by
  constructor
  · rw [C11_rung]; rfl
  · simp only [runVia, C11_rung, expectedExit]; rfl

/-- why the constants are pinned: with an unbounded second wait (`waitall(None)`) a body that swallows
KeyboardInterrupt keeps the worker alive forever — the run is stuck with the process still there -/
theorem C11_unbounded_wait_counterexample :
    (run ⟨some 50, none, 0⟩ .swallowsKeyboardInterrupt 0).gone = none ∧
    step ⟨some 50, none, 0⟩ (run ⟨some 50, none, 0⟩ .swallowsKeyboardInterrupt 0) = none := by decide

/-! ### non-vacuity -/

example : (run (codeLadder 2) (.sleeping 80) 1000).gone = some ⟨1052, 0, .sigint⟩ := by
  rw [C11_rung]; rfl
example : (run (codeLadder 2) (.sleeping 30) 1000).gone = some ⟨1032, 0, .clean⟩ := by
  rw [C11_rung]; rfl
/-- a mid-ladder state (in the second wait, SIGINT already sent, body still running) has a successor -/
example : step (codeLadder 0) ⟨60, .wait10, .inTask .swallow, false, some 60, none⟩ =
    some ⟨160, .hardExit, .inTask .swallow, false, some 60, none⟩ := by
  rw [codeLadder_eq]; rfl

end ExecnetVerif
