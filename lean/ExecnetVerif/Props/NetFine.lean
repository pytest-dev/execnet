/-
Two-step `Channel.receive` (Model/NetFine.lean) refines the atomic receive of the L3 `Net` model.
-/
import ExecnetVerif.Proofs.Net.FineSim
namespace ExecnetVerif.Net

/-- Every fine history that respects the hands is, after putting the in-hand ENDMARKERs back, exactly the coarse
history `project` of it: same final state, same visible outputs. -/
theorem fine_refines (fails : Item → Bool) (fops : List FOp) (h : guardedRun fails finit fops = true) :
    run fails init (project fails finit fops)
      = (visibleOuts fails finit fops, (frun fails finit fops).2.abs) :=
  (Fine.refines_gen fails fops finit Fine.FInv_finit (Reachable.init fails) h).1

/-- Hence every state property proved for all reachable coarse states (all `Net` invariant groups) holds, modulo
`abs`, in every state reachable at the finer granularity. -/
theorem fine_inv_transfer (fails : Item → Bool) (P : State → Prop)
    (hP : ∀ st, Reachable fails st → P st) (fops : List FOp) (h : guardedRun fails finit fops = true) :
    P (frun fails finit fops).2.abs :=
  hP _ ⟨project fails finit fops, by rw [fine_refines fails fops h]⟩

def d22 : List FOp :=
  [.coarse .remoteExec, .coarse (.close .A 1 none), .coarse (.deliver .B), .coarse (.deliver .B), .recvGet .B 1,
   .coarse (.setcallback .B 1 true), .recvFin .B 1]

/-- The hypothesis is necessary (defect D22, still in the code): `setcallback` while a receiver holds the ENDMARKER
loses the end-of-stream notification of the callback. -/
theorem fine_guard_needed :
    guardedRun (fun _ => false) finit d22 = false ∧
    (run (fun _ => false) init (project (fun _ => false) finit d22)).2 ≠ (frun (fun _ => false) finit d22).2.abs := by
  refine ⟨by decide, fun h => ?_⟩
  have h2 := congrArg (fun st => st.b.cbLog 1) h
  revert h2
  decide

def reopen : List FOp :=
  [.coarse .remoteExec, .coarse (.deliver .B), .coarse (.newchannel .A), .coarse (.send .A 1 ⟨7, [3]⟩),
   .coarse (.deliver .B), .coarse (.close .B 3 none), .coarse (.send .A 1 ⟨8, [3]⟩), .recvGet .B 3,
   .coarse (.deliver .B)]

/-- the guard without the `deliver` clause -/
def FOp.respectsHands₀ (f : FState) : FOp → Bool
  | .coarse (.setcallback s id _) => !(f.hand.contains (s, id))
  | .coarse (.drop s id) => !(f.hand.contains (s, id))
  | _ => true

def guardedRun₀ (fails : Item → Bool) : FState → List FOp → Bool
  | _, [] => true
  | f, op :: ops => op.respectsHands₀ f && guardedRun₀ fails (fstep fails f op).2 ops

/-- The `deliver` clause of the guard is necessary as well.  The model identifies channel objects by id: B closes
channel 3, a receiver of B takes its ENDMARKER in hand, and then a DATA item carrying channel 3 re-creates the id at
B.  The put-back now lands in the NEW record, so the abstraction has an ENDMARKER in a fresh open channel — not a
reachable coarse state at all (it breaks `ShapeInv`).  The history passes the guard without the `deliver` clause
(`respectsHands₀`: only `setcallback`/`drop` are restricted). -/
theorem fine_deliver_guard_needed :
    guardedRun₀ (fun _ => false) finit reopen = true ∧
    guardedRun (fun _ => false) finit reopen = false ∧
    run (fun _ => false) init (project (fun _ => false) finit reopen)
      ≠ (visibleOuts (fun _ => false) finit reopen, (frun (fun _ => false) finit reopen).2.abs) ∧
    ((frun (fun _ => false) finit reopen).2.abs.b.chans 3).queue = some [.endmarker] ∧
    ((frun (fun _ => false) finit reopen).2.abs.b.chans 3).rclosed = false := by
  refine ⟨by decide, by decide, fun h => ?_, by decide, by decide⟩
  have h2 := congrArg (fun p => (p.2.b.chans 3).queue) h
  revert h2
  decide

end ExecnetVerif.Net
