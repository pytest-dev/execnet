/-
The granularity of the L3 `Net` model, tied to the source.

`Model/Net.lean` takes `setcallback` (detach the queue, replay the backlog, register the callback), the handling of
one incoming message, the receiver epilogue `_finished_receiving`, the allocation of a channel id and the writing of
one frame as single atomic steps, and `new` refuses a finished factory inside the same critical section that registers the channel.  That is sound only because the code runs each of them inside one critical section
(`_receivelock` / `_writelock` / `_sendlock`).  The translator reads the lock every such statement runs under off the
current source (`Generated.criticalSections`); this theorem pins the table.  `Channel.receive` takes an item and puts the
ENDMARKER back WITHOUT a lock — the finer model `Model/NetFine.lean` and its refinement theorem cover that.
-/
import ExecnetVerif.Generated.Tables
namespace ExecnetVerif

theorem Net_granularity_pinned :
    Generated.criticalSections =
      [("Channel.setcallback", "detach-queue", "self.gateway._receivelock"),
       ("Channel.setcallback", "drain-get", "self.gateway._receivelock"),
       ("Channel.setcallback", "register", "self.gateway._receivelock"),
       ("Channel.setcallback", "replay-item", "self.gateway._receivelock"),
       ("Channel.setcallback", "replay-endmarker", "self.gateway._receivelock"),
       ("Channel.setcallback", "putback", "self.gateway._receivelock"),
       ("Channel.receive", "get", "-"),
       ("Channel.receive", "putback", "-"),
       ("ChannelFactory.new", "finished-check", "self._writelock"),
       ("ChannelFactory.new", "read-count", "self._writelock"),
       ("ChannelFactory.new", "advance-count", "self._writelock"),
       ("ChannelFactory.new", "table-insert", "self._writelock"),
       ("BaseGateway._thread_receiver", "handle-message", "self._receivelock"),
       ("BaseGateway._thread_receiver", "finish-receiving", "self._receivelock"),
       ("BaseGateway._send", "write-frame", "self._sendlock")] :=
  rfl

end ExecnetVerif
