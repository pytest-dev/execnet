/-
C01 — Serializer round-trip is total and type-exact on builtin values.
-/
import ExecnetVerif.Proofs.SerRoundtrip
namespace ExecnetVerif

/-- contains an unsupported leaf (other type / subclass instance / name-colliding class) or a
str that is not UTF-8 encodable, at any nesting position -/
inductive HasBad : PyVal → Prop
  | foreign : HasBad .foreign
  | badstr : HasBad .badstr
  | list {xs x} : x ∈ xs → HasBad x → HasBad (.list xs)
  | tuple {xs x} : x ∈ xs → HasBad x → HasBad (.tuple xs)
  | set {xs x} : x ∈ xs → HasBad x → HasBad (.set xs)
  | frozenset {xs x} : x ∈ xs → HasBad x → HasBad (.frozenset xs)
  | dictKey {kvs k v} : (k, v) ∈ kvs → HasBad k → HasBad (.dict kvs)
  | dictVal {kvs k v} : (k, v) ∈ kvs → HasBad v → HasBad (.dict kvs)

/-- **C01 (rejection).** A value containing an unsupported leaf or a non-encodable string at any
nesting position is never serialized: the encoder reports an error instead of producing bytes, so
`Channel.send` (which encodes before it touches the connection) writes nothing. -/
theorem C01_reject (v : PyVal) (h : HasBad v) : ∃ e, dumps v = .error e ∧ encodeInternal v = .error e := by
  have key : (dumpErr v).isSome := by
    induction h with
    | foreign | badstr => rfl
    | list hx _ ih =>
      simp only [dumpErr, orElse'_isSome, dumpErrAll_isSome, Bool.or_eq_true, List.any_eq_true]
      exact .inr ⟨_, hx, ih⟩
    | tuple hx _ ih | set hx _ ih | frozenset hx _ ih =>
      simp only [dumpErr, orElse'_isSome, dumpErrAll_isSome, Bool.or_eq_true, List.any_eq_true]
      exact .inl ⟨_, hx, ih⟩
    | dictKey hx _ ih =>
      simp only [dumpErr, dumpErrPairs_isSome, List.any_eq_true, Bool.or_eq_true]
      exact ⟨_, hx, .inl ih⟩
    | dictVal hx _ ih =>
      simp only [dumpErr, dumpErrPairs_isSome, List.any_eq_true, Bool.or_eq_true]
      exact ⟨_, hx, .inr ih⟩
  cases hd : dumpErr v with
  | none => simp [hd] at key
  | some e => exact ⟨e, by simp [dumps, hd], by simp [encodeInternal, hd]⟩

/-- **C01 (totality).** Every value of the supported grammar is serialized (never rejected). -/
theorem C01_total (v : PyVal) (h : WF v) :
    dumps v = .ok (dumpVersion :: (enc v ++ [opSTOP])) :=
  dumps_of_dumpErr v (dumpErr_of_WF v h)

/-- **C01 (round-trip, public API).** For every well-formed value, `loads(dumps(v))` is exactly
`v`: structural equality of `PyVal` is type-exactness at every position, dict insertion order,
set membership and float bit patterns. -/
theorem C01_roundtrip (v : PyVal) (h : WF v) :
    ∃ b, dumps v = .ok b ∧ loads cfgPublic b = .ok v :=
  ⟨_, C01_total v h, loads_dump cfgPublic rfl rfl v h⟩

/-- **C01 (round-trip, channel path).** `Channel.send` encodes with `dumps_internal` and the peer
decodes with `loads_internal` under the channel's string configuration; with any configuration
that does not ask for py3 `str` as py2 `str` (the default) the received value is exactly `v`. -/
theorem C01_roundtrip_channel (cfg : Cfg) (hcfg : cfg.py3str_as_py2str = false)
    (hmem : cfg.memLimit = none) (v : PyVal) (h : WF v) : ∃ b, encodeInternal v = .ok b ∧ loadsInternal cfg b = .ok v := by
  refine ⟨enc v ++ [opSTOP], encodeInternal_of_dumpErr v (dumpErr_of_WF v h), ?_⟩
  exact run_dump cfg hcfg hmem v h

/-- **C01 (stream form).** `dump` writes the bytes of `dumps` to a stream; however they are cut into
chunks, loading their concatenation gives the value back.  (That `load` sees the concatenation whatever
the chunking is `C13_read_exact_any_chunking`.) -/
theorem C01_stream (v : PyVal) (h : WF v) (chunks : List Bytes) (b : Bytes)
    (hd : dumps v = .ok b) (hc : chunks.flatten = b) : loads cfgPublic chunks.flatten = .ok v := by
  obtain ⟨b', hb', hl⟩ := C01_roundtrip v h
  rw [hd] at hb'; cases hb'; rw [hc]; exact hl

/-- **C01 (dumps is injective).** Two supported values with the same dump are the same value — same type at
every position, same dict order, same float bits: the byte string determines the value, so nothing
type-distinguishing is lost on the wire (`1` / `True` / `1.0`, `[]` / `()`, `b""` / `""`, set / frozenset). -/
theorem C01_dumps_injective (v w : PyVal) (hv : WF v) (hw : WF w) (h : dumps v = dumps w) : v = w := by
  obtain ⟨b, hb, hl⟩ := C01_roundtrip v hv
  obtain ⟨b', hb', hl'⟩ := C01_roundtrip w hw
  rw [h, hb'] at hb
  cases hb
  rw [hl] at hl'
  cases hl'
  rfl

/-! ### non-vacuity: a concrete non-trivial value satisfies the hypotheses -/

def exampleValue : PyVal :=
  .dict [(.tuple [.int (-2147483649), .float 0x7ff8000000000000], .list [.bool true, .int 1]),
         (.int 1, .set [.str "é", .int 2, .frozenset [.none]]),
         (.bytes [0, 255], .complex 0x8000000000000000 0x3ff0000000000000)]

example : WF exampleValue := by
  simp [exampleValue, WF, WFAll, WFPairs, fresh, hashable, hashableAll, pyMem, pyEq, PyVal.num?,
    inI32, numDigits, maxStrDigits, two31, two64, natDigits, utf8Encode]
  decide

example : HasBad (.list [.int 1, .dict [(.str "k", .tuple [.foreign])]]) :=
  .list (List.mem_cons_of_mem _ List.mem_cons_self)
    (.dictVal List.mem_cons_self (.tuple List.mem_cons_self .foreign))

end ExecnetVerif
