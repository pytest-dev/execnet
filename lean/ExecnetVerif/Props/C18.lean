/-
C18 — Channel ids never collide and channels travel over channels intact.
-/
import ExecnetVerif.Proofs.Net.Ids
import ExecnetVerif.Proofs.Net.Cb
import ExecnetVerif.Proofs.Net.Isolation
import ExecnetVerif.Generated.Tables
import ExecnetVerif.Props.NetGranularity  -- audited through this module (harness/obligations.json)
namespace ExecnetVerif
open Net

/-- the model's id allocation uses the constants of the code: the initiator starts at 1, the worker at
2, both step by 2 (regenerated from Gateway.__init__, serve() and ChannelFactory.new on every run) -/
theorem C18_constants_pinned :
    Generated.channelStartInitiator = (Net.init.a.count : Int) ∧
    Generated.channelStartWorker = (Net.init.b.count : Int) ∧ Generated.channelStride = 2 := by decide

/-- **C18 (distinct ids).** Over ANY history — concurrent `newchannel`/`remote_exec` calls on both
sides in any interleaving — all channel ids handed out are pairwise distinct, so two independently
created channels are never cross-connected. -/
theorem C18_distinct_ids (fails : Item → Bool) (ops : List Op) :
    ((run fails init ops).1.filterMap chanOut).Nodup :=
  Net.C18_distinct_ids fails ops

/-- ids allocated by the initiator are odd, by the worker even -/
theorem C18_parity {fails : Item → Bool} {st st' : State} {s : Side} {id : Nat} (h : Reachable fails st)
    (hs : step fails st (.newchannel s) = (.chan id, st')) : id % 2 = if s = .A then 1 else 0 :=
  Net.C18_parity hs h

theorem C18_parity_remote_exec {fails : Item → Bool} {st st' : State} {id : Nat} (h : Reachable fails st)
    (hs : step fails st .remoteExec = (.chan id, st')) : id % 2 = 1 :=
  Net.C18_parity_remote_exec hs h

/-- **C18 (channels travel).** When an item carrying channel ids is accepted by the receiver thread
(for a callback, or into the queue of a registered channel object), every carried id is afterwards a
live, registered channel object at the receiving side — the existing one for that conversation, or a
fresh one (only the carrying channel itself may meanwhile have been closed by a failing callback).
Hypothesis `hio`: if the item goes to a callback that raises, the connection is still up
(`x.ioOpen = true` suffices) — a callback raising after the IO was closed ends the receiver thread, and
its epilogue unregisters every channel object. -/
theorem C18_travel (fails : Item → Bool) (x : SideSt) (wk : Bool) (id : Nat) (v : Item)
    (hx : ∀ j, (x.chans j).registered = true → (x.chans j).created = true ∧ (x.chans j).alive = true)
    (hacc : x.cbs id ≠ none ∨ ((x.chans id).registered = true ∧ (x.chans id).queue ≠ none))
    (hio : x.cbs id ≠ none → fails v = true → x.ioOpen = true) :
    ∀ c ∈ v.chans,
      ((handle fails x wk (.data id v)).chans c).created = true ∧
      ((handle fails x wk (.data id v)).chans c).alive = true ∧
      (((handle fails x wk (.data id v)).chans c).registered = true ∨
        (c = id ∧ x.cbs id ≠ none ∧ fails v = true ∧ ((handle fails x wk (.data id v)).chans c).closed = true)) :=
  Net.C18_travel fails x wk id v hx hacc hio

/-- **C18 (no growth).** The per-gateway tables only hold open conversations: a registered channel
object is alive, not closed and has not seen the end of its receiving side; a registered callback
belongs to a conversation that has not ended at this side.  Hence the table sizes are bounded by the
number of conversations still open, independent of the length of the history. -/
theorem C18_no_growth {fails : Item → Bool} {st : State} (h : Reachable fails st) (p : Side) (id : Nat) :
    (((st.side p).chans id).registered = true →
      ((st.side p).chans id).alive = true ∧ ((st.side p).chans id).closed = false ∧
      ((st.side p).chans id).rclosed = false) ∧
    (∀ w, (st.side p).cbs id = some w → (st.side p).broken id = false → (st.side p).ended id = false) := by
  have hs : ((st.side p).chans id).Shape := ShapeInv_reachable h p id
  have hc := viewOK_reachable h p id
  exact ⟨fun hr => (hs.of_registered hr).2, fun w hw hb => (hc.c1 w hw hb).2.2⟩

/-- **C18 (both sides forget).** A closed channel object is no longer in the channel table, and — unless
the id was re-opened — a side at which the conversation has ended (own close, the peer's close handled,
connection end) holds neither a table entry nor a callback for it. -/
theorem C18_forget {fails : Item → Bool} {st : State} (h : Reachable fails st) (p : Side) (id : Nat) :
    (((st.side p).chans id).closed = true → ((st.side p).chans id).registered = false) ∧
    (((st.side p).chans id).alive = false → ((st.side p).chans id).registered = false) ∧
    ((st.side p).ended id = true → (st.side p).broken id = false →
      ((st.side p).chans id).registered = false ∧ (st.side p).cbs id = none) := by
  have hs : ((st.side p).chans id).Shape := ShapeInv_reachable h p id
  have hc := viewOK_reachable h p id
  refine ⟨?_, ?_, ?_⟩
  · intro hcl
    cases hr : ((st.side p).chans id).registered with
    | false => rfl
    | true => rw [(hs.of_registered hr).2.2.1] at hcl; cases hcl
  · intro hal
    cases hr : ((st.side p).chans id).registered with
    | false => rfl
    | true => rw [(hs.of_registered hr).2.1] at hal; cases hal
  · intro he hb
    refine ⟨hc.c9 he hb, ?_⟩
    cases hcb : (st.side p).cbs id with
    | none => rfl
    | some w =>
      have : (st.side p).ended id = false := (hc.c1 w hcb hb).2.2
      rw [this] at he; cases he

/-! non-vacuity: both sides allocate concurrently; a channel created by the worker travels to the initiator -/
example : ((run (fun _ => false) init [.remoteExec, .newchannel .B, .newchannel .A, .deliver .B,
      .send .B 1 ⟨5, [2]⟩, .deliver .A, .receive .A 1]).1
    = [.chan 1, .chan 2, .chan 3, .ok, .ok, .ok, .item ⟨5, [2]⟩]) := by decide

end ExecnetVerif
