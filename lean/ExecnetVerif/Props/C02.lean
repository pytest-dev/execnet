/-
C02 — Channels deliver each item exactly once, in order, to the right channel.
Theorems over EVERY reachable state of the `Net` model, i.e. every history of API operations of
any number of user threads on both sides interleaved arbitrarily with the deliveries of both
receiver threads (op granularity), for every choice of which callbacks fail.
-/
import ExecnetVerif.Proofs.Net.Got
import ExecnetVerif.Props.NetGranularity  -- audited through this module (harness/obligations.json)
namespace ExecnetVerif
open Net

/-- **C02 (exactly once, in order, right channel).** The items a side has obtained on a channel —
through `receive`, iteration or its callback — are, in order and without repetition, items the peer
sent on *that* channel (`List.Sublist`: no duplication, no reordering, nothing from elsewhere; items
are arbitrary values, so take them pairwise distinct to read "nothing from another channel"). -/
theorem C02_exactly_once_in_order {fails : Item → Bool} {st : State} (h : Reachable fails st)
    (p : Side) (id : Nat) : List.Sublist ((st.side p).got id) ((st.side p.peer).sent id) :=
  (List.sublist_append_left _ _).trans (got_queued_sublist_sent h p id)

/-- **C02 (without loss).** As long as this side has kept its end of the conversation (nothing was
dropped for lack of a receiver: `dropped = false`; the id was not re-opened and no callback raised
while draining: `broken = false`), every item the peer sent is accounted for, in order: obtained,
then queued, then still in flight. -/
theorem C02_no_loss {fails : Item → Bool} {st : State} (h : Reachable fails st) (p : Side) (id : Nat)
    (hd : (st.side p).dropped id = false) (hb : (st.side p).broken id = false) :
    (st.side p).got id ++ queueItems ((st.side p).chans id).queue ++ dataOf id (st.side p.peer).out
      = (st.side p.peer).sent id := by
  have hw := WireInv_reachable h p.peer id
  have hk := (KeptInv_reachable h p id).2 hd
  have hg := (GotInv_reachable h p id).2 hb
  rw [Side.peer_peer] at hw
  rw [hw, ← hk, ← hg]

/-- hence what was obtained is a *prefix* of what was sent -/
theorem C02_prefix {fails : Item → Bool} {st : State} (h : Reachable fails st) (p : Side) (id : Nat)
    (hd : (st.side p).dropped id = false) (hb : (st.side p).broken id = false) :
    (st.side p).got id <+: (st.side p.peer).sent id := by
  rw [← C02_no_loss h p id hd hb, List.append_assoc]
  exact List.prefix_append _ _

/-- **C02 (when can an item be dropped).** The receiver thread drops a DATA item only if, at that
moment, the side has neither a callback nor a registered channel object with a queue for the id —
i.e. only a side that never opened, or already closed or dropped, its end loses items. -/
theorem C02_drop_only_without_receiver (fails : Item → Bool) (x : SideSt) (w : Bool) (id : Nat) (v : Item)
    (hbefore : x.dropped id = false) (hafter : (handle fails x w (.data id v)).dropped id = true) :
    x.cbs id = none ∧ ¬ ((x.chans id).registered = true ∧ (x.chans id).queue ≠ none) := by
  revert hafter
  apply handle_cases fails x w (.data id v)
    (P := fun y => y.dropped id = true → x.cbs id = none ∧ ¬ ((x.chans id).registered = true ∧ (x.chans id).queue ≠ none))
  case dropped =>
    rintro _ _ ⟨⟩ hc hn _
    exact ⟨hc, fun ⟨hr, hq⟩ => hn ⟨hr, Option.isSome_iff_ne_none.2 hq⟩⟩
  case cbFail => intro _ _ _ _ _ _ h; rw [localClose_dropped] at h; exact absurd (hbefore ▸ h : false = true) (by decide)
  -- every other piece leaves `dropped` alone
  all_goals intros; simp_all [acceptCb, acceptQ, epilogue]

/-! non-vacuity: a reachable state with a delivered, received item -/
def failsNone : Item → Bool := fun _ => false

example : ((run failsNone init [.remoteExec, .deliver .B, .send .A 1 ⟨7, []⟩, .deliver .B, .receive .B 1]).1
    = [.chan 1, .ok, .ok, .ok, .item ⟨7, []⟩]) := by decide

end ExecnetVerif
