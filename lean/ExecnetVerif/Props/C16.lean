/-
C16 — Every transport is observationally equivalent for channel programs.
An endpoint depends on its transport only through the sequence of frames the transport delivers;
per direction a transport is a function from the frames written to the frames (and the ending) the
peer's receiver decodes.  The theorems say this function is the identity for the pipe, the socket
and the proxied (`via=`) transport, and pin the control-request table of the proxy.
-/
import ExecnetVerif.Proofs.ProxyLemmas
import ExecnetVerif.Generated.Tables
namespace ExecnetVerif

/-- **C16 (popen).** Over a pipe, whatever the chunking, the peer decodes exactly the frames written
(T = id) and then a clean EOF. -/
theorem C16_popen (ms : List Msg) (chunks : List Bytes) (h : wfMsgs ms)
    (hflat : chunks.flatten = ms.flatMap encodeMsg) (hne : ∀ c ∈ chunks, c ≠ []) :
    popenTransport chunks = (ms, .eof) := by
  unfold popenTransport
  rw [decodeStreamChunked_eq chunks hne, hflat]
  exact decodeStream_encodeAll ms h

/-- **C16 (socket).** The same for `SocketIO` (its `read` is the same read-until-n loop over `recv`). -/
theorem C16_socket (ms : List Msg) (chunks : List Bytes) (h : wfMsgs ms)
    (hflat : chunks.flatten = ms.flatMap encodeMsg) (hne : ∀ c ∈ chunks, c ≠ []) :
    socketTransport chunks = (ms, .eof) :=
  C16_popen ms chunks h hflat hne

/-- **C16 (proxy).** Through a `via=` gateway both directions are the identity on frame sequences:
* up: the sub writes its boot byte and the frames `ms`; the forwarder re-frames them as one channel
  item per frame (`forwarderItems`); the master's `ChannelFileRead.read(1)`, `read(9)`, `read(len)`
  over those items yield the boot byte and exactly `ms`, then "empty read" (EOFError) —
  nothing merged, split, reordered or modified;
* down: the master's `to_io(ProxyIO)` sends one item per frame, the forwarder's callback writes
  the items to the sub's stdin, and the sub decodes exactly `ms`. -/
theorem C16_proxy_identity (ms : List Msg) (h : wfMsgs ms) :
    proxyUp ms = ([bootByte], ms, .eof) ∧ proxyDown ms = (ms, .eof) ∧
      forwarderItems (bootByte :: encodeAll ms) = [bootByte] :: ms.map encodeMsg := by
  have hd := decodeStream_encodeAll ms h
  refine ⟨?_, ?_, ?_⟩
  · rw [proxyUp, proxyUpStream_eq, hd]
  · unfold proxyDown masterItems
    rw [← List.flatMap_def]; exact hd
  · simp [forwarderItems, hd]

/-- **C16 (proxy, any chunking of the two pipes).** The forwarder reads the sub's stdout and the sub
reads its stdin through `Popen2IO`'s read loop; however the pipes chunk the bytes, the result is the
same identity. -/
theorem C16_proxy_identity_chunked (ms : List Msg) (h : wfMsgs ms) (up down : List Bytes)
    (hup : up.flatten = bootByte :: encodeAll ms) (hupne : ∀ c ∈ up, c ≠ [])
    (hdown : down.flatten = (masterItems ms).flatten) (hdownne : ∀ c ∈ down, c ≠ []) :
    forwarderItemsChunked up = [bootByte] :: ms.map encodeMsg ∧
    decodeItems (pxRead 1 ⟨none, forwarderItemsChunked up⟩).2 = (ms, .eof) ∧
    decodeStreamChunked down = (ms, .eof) := by
  have hid := C16_proxy_identity ms h
  have hitems : forwarderItemsChunked up = [bootByte] :: ms.map encodeMsg := by
    rw [forwarderItemsChunked_eq up hupne, hup]; exact hid.2.2
  refine ⟨hitems, ?_, ?_⟩
  · rw [hitems, pxRead_boot]; exact decodeItems_frames ms h
  · rw [decodeStreamChunked_eq down hdownne, hdown]; exact hid.2.1

/-- **C16 (proxy, sub dies).** If the sub's output stops after any `k` bytes of its frames, the
master decodes exactly the frames that were complete and then sees the ordinary EOF — the forwarder
never passes a partial frame on. -/
theorem C16_proxy_cut (ms : List Msg) (k : Nat) (h : wfMsgs ms) :
    proxyUpStream (bootByte :: (encodeAll ms).take k) =
      ([bootByte], ms.take (completeWithin ms k), .eof) := by
  rw [proxyUpStream_eq, decodeStream_take_encodeAll ms k h, framesBefore_fst_eq_take]

/-- **C16 (control).** Each control method of `ProxyIO` sends its own `RIO_*` code (codes pairwise
distinct); the forwarder's dispatcher performs exactly that operation on the sub-process IO —
`wait` → `sub_io.wait()` and replies its result, `kill` → `sub_io.kill()` and replies `None`,
`close_write` → `sub_io.close_write()` and replies `None`, `remoteaddress` → replies
`sub_io.remoteaddress` — and these are the tables found in the source. -/
theorem C16_control :
    rioControl RioOp.wait.code = some (.wait, .result) ∧
    rioControl RioOp.kill.code = some (.kill, .none) ∧
    rioControl RioOp.closeWrite.code = some (.closeWrite, .none) ∧
    rioControl RioOp.remoteaddress.code = some (.remoteaddress, .result) ∧
    (RioOp.all.map RioOp.code).Nodup ∧
    Generated.rioCodes = [("RIO_KILL", RioOp.kill.code), ("RIO_WAIT", RioOp.wait.code),
      ("RIO_REMOTEADDRESS", RioOp.remoteaddress.code), ("RIO_CLOSE_WRITE", RioOp.closeWrite.code)] ∧
    Generated.rioDispatch =
      [("RIO_WAIT", ["control_chan.send(sub_io.wait())"]),
       ("RIO_KILL", ["sub_io.kill()", "control_chan.send(None)"]),
       ("RIO_REMOTEADDRESS", ["control_chan.send(sub_io.remoteaddress)"]),
       ("RIO_CLOSE_WRITE", ["sub_io.close_write()", "control_chan.send(None)"])] ∧
    Generated.proxyIOMethods =
      [(RioOp.closeWrite.name, "RIO_CLOSE_WRITE"), (RioOp.kill.name, "RIO_KILL"),
       (RioOp.wait.name, "RIO_WAIT"), (RioOp.remoteaddress.name, "RIO_REMOTEADDRESS")] :=
  ⟨rfl, rfl, rfl, rfl, by decide, rfl, rfl, rfl⟩

/-! ### non-vacuity, and why no item may arrive truncated (how the bytes are spread over the items does
not matter) -/

example : wfMsgs exampleMsgs := by decide
example : proxyUp exampleMsgs = ([bootByte], exampleMsgs, .eof) := (C16_proxy_identity _ (by decide)).1

/-- The channel-file reader does not detect a short payload: were an item ever delivered partially
(here: 12 of the 14 bytes of a frame), the master would build a message from the 3 payload bytes
that are there.  The proxy is correct because channel items are delivered whole (C02), which is what
`C16_proxy_identity` and `C16_proxy_cut` use. -/
example : decodeItems ⟨some [], [(encodeMsg ⟨4, 1, [1, 2, 3, 4, 5]⟩).take 12]⟩
    = ([⟨4, 1, [1, 2, 3]⟩], .eof) := by decide

end ExecnetVerif
