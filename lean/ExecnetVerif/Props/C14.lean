/-
C14 — main_thread_only executes in the main thread and never cries deadlock falsely.
Two models are involved:
* `Model/Pool.lean` (the WorkerPool of C09) for "every body runs on the primary (= main) thread, one at a time";
* `Model/ExecGate.lean` for the gate in front of the pool (`_executetask_complete`, the 1 s wait, the deadlock
  reply) — order, rejection of overlapping submissions, and no false deadlock under the assumption `Timely`.
All theorems are about every reachable state, i.e. every interleaving of the initiator, the worker's receiver
thread and the worker's main thread, for histories of any length and any outcomes
(return / raise / SystemExit / KeyboardInterrupt; a blocked body is a body whose `mFinish` step is not taken).
-/
import ExecnetVerif.Proofs.GateSteps
import ExecnetVerif.Proofs.PoolMto
import ExecnetVerif.Generated.Tables
import ExecnetVerif.Model.ExecChoice
namespace ExecnetVerif
open Gate

/-- the receiver's wait in `_local_schedulexec` is the 1 s (10 tenths) the model's time-out stands for -/
theorem C14_gate_wait_pinned : Generated.gateWaitDeci = 10 := rfl

/-- **C14 (main thread).** In a `main_thread_only` pool with an integrated primary thread (the worker's main
thread) no worker thread is ever started: every accepted task is handed to the primary thread, and only the
primary thread can begin, run and finish its body. -/
theorem C14_main_thread {c : Pool.Config} {s : Pool.State} (hc : c.old = false) (hp : c.primary = true)
    (hm : c.mto = true) (h : Pool.Reachable c s) :
    (∀ t, t ∈ s.accepted → s.prim t = true ∧ s.phase t ≠ .created) ∧
    (∀ t a, t ∈ s.accepted → Pool.canExec s a t = true → a = .primary) := by
  have inv := Pool.inv_reachable hc h
  have ap := Pool.allPrim_reachable hc hp hm h
  refine ⟨fun t ht => ?_, fun t a ht hx => ?_⟩
  · have h1 := ap t ((inv.acc t).1 ht)
    exact ⟨h1, fun hcr => by have := inv.workOf t hcr; simp [h1] at this⟩
  · have h1 := ap t ((inv.acc t).1 ht)
    cases a with
    | primary => rfl
    | user i => simp [Pool.canExec] at hx
    | worker u => simp [Pool.canExec, h1] at hx

/-- **C14 (one at a time).** In such a pool two different tasks are never between the begin of their body and
their removal from `_running` at the same time (both would have to be in the primary thread's hands). -/
theorem C14_one_at_a_time {c : Pool.Config} {s : Pool.State} (hc : c.old = false) (hp : c.primary = true)
    (hm : c.mto = true) (h : Pool.Reachable c s) (t u : Pool.TaskId)
    (ht : Pool.primExec (s.phase t) = true) (hu : Pool.primExec (s.phase u) = true) : t = u := by
  have inv := Pool.inv_reachable hc h
  have ap := Pool.allPrim_reachable hc hp hm h
  have run {v} (hv : Pool.primExec (s.phase v) = true) : s.pp = .run v :=
    inv.run_of_primExec (ap v (Pool.primExec_ne_unused hv)) hv
  exact Pool.PPhase.run.inj ((run ht).symm.trans (run hu))

/-- the same at the level of the gate model: at most one exec is between body begin and `complete.set()` (bodies are
begun by the main thread's `mStart` only: the model has no other step that extends `started`) -/
theorem C14_one_at_a_time_gate {c : Config} {s : State} (hc : c.old = false) (h : Reachable c s) (j k : Nat)
    (hj : s.ph j = .running ∨ (∃ o, s.ph j = .bodyDone o) ∨ (∃ o, s.ph j = .closed o))
    (hk : s.ph k = .running ∨ (∃ o, s.ph k = .bodyDone o) ∨ (∃ o, s.ph k = .closed o)) : j = k := by
  have inv := ginv_reachable hc h
  -- each of these phases pins the main thread's state to the exec: `m` names `j` and names `k`
  grind [inv.phRun, inv.phDone, inv.phClosed]

/-- **C14 (order).** Bodies begin in submission order: the list of begun execs is strictly increasing in the
submission index, it contains exactly the execs that got past the gate and were begun, no begun exec was refused,
and every submitted exec is either begun, refused with the deadlock text, or still on its way
(on the wire, at the gate, or queued) — nothing is dropped or duplicated. -/
theorem C14_order {c : Config} {s : State} (hc : c.old = false) (h : Reachable c s) :
    s.started.Pairwise (· < ·) ∧
    (∀ k, k ∈ s.started ↔ begun (s.ph k) = true) ∧
    (∀ k, k < s.submitted → k ∈ s.started ∨ s.ph k = .rejected ∨ s.ph k = .sent ∨ s.ph k = .atGate ∨ s.ph k = .queued) ∧
    (∀ a b, a < b → b ∈ s.started → a ∈ s.started ∨ s.ph a = .rejected) := by
  have inv := ginv_reachable hc h
  refine ⟨inv.staSorted, inv.staIff, fun k hk => ?_, fun a b hab hb => ?_⟩
  · have hne : s.ph k ≠ .unsent := fun hu => by have := (inv.phUnsent k).1 hu; omega
    cases hp : s.ph k <;> simp_all [(inv.staIff k), begun]
  · have hbb := (inv.staIff b).1 hb
    -- `b` has begun, so the earlier `a` is neither on the wire nor at the gate (`mono2`) nor queued (`mono3`) …
    have h2 := inv.mono2 a b hab (begun_pastGate hbb)
    have h3 := inv.mono3 a b hab hbb
    -- … nor unsent: `b` is submitted and `a < b`
    have hne : s.ph a ≠ .unsent := fun hu => by
      have h1 := (inv.phUnsent a).1 hu
      have h4 : s.ph b ≠ .unsent := fun hu' => by simp [hu', begun] at hbb
      have : ¬ s.submitted ≤ b := fun hle => h4 ((inv.phUnsent b).2 hle)
      omega
    cases hp : s.ph a <;> simp_all [(inv.staIff a), begun]

/-- **C14 (overlapping submissions are refused, the running body is not disturbed).** While the main thread is
busy with exec `k` (from the begin of its body to `complete.set()`) the receiver cannot pass the gate for a later
exec `j`: `wait()` cannot return True, the only step the receiver has is the expiry of the 1 s wait, and that
step closes channel `j` with the deadlock text and changes nothing else — not the main thread, not the list of
begun bodies, not the phase of any other exec. -/
theorem C14_overlap_rejected {c : Config} {s : State} (hc : c.old = false) (h : Reachable c s) (j : Nat)
    (hr : s.r = .waiting j) (hm : s.m ≠ .idle) :
    step c s .rWake = none ∧ step c s .rTake = none ∧ step c s .rClear = none ∧ step c s .rSpawn = none ∧
    (∀ s', step c s .rTimeout = some s' →
      s'.ph j = .rejected ∧ s'.m = s.m ∧ s'.started = s.started ∧ s'.queue = s.queue ∧ s'.complete = s.complete ∧
      ∀ i, i ≠ j → s'.ph i = s.ph i) := by
  have inv := ginv_reachable hc h
  have hcf := inv.mBusyC hm
  refine ⟨by simp [step, hr, hcf], by simp [step, hr], by simp [step, hr], by simp [step, hr], ?_⟩
  intro s' hs
  simp only [step, hr] at hs
  split at hs
  · cases hs
    refine ⟨by simp [upd], rfl, rfl, rfl, rfl, fun i hi => by simp [upd, hi]⟩
  · cases hs

/-- **C14 (no false deadlock).** Under `Timely` an exec that was submitted after the initiator had seen every
earlier channel closed is never answered with the deadlock error — whatever the outcomes of the earlier bodies
(return, raise, SystemExit, KeyboardInterrupt). Together with `C14_progress` (some thread can always move while
the exec is on its way) this means its body runs. -/
theorem C14_no_false_deadlock {c : Config} {s : State} (hc : c.old = false) (ht : c.timely = true)
    (h : Reachable c s) (k : Nat) (hseq : s.seqOk k = true) :
    s.ph k ≠ .rejected ∧ (∀ j, j < k → s.closeObs j = true ∧ isClosed (s.ph j) = true) := by
  have inv := ginv_reachable hc h
  exact ⟨inv.nfd ht k hseq, fun j hj => ⟨inv.seqC k hseq j hj, inv.obs j (inv.seqC k hseq j hj)⟩⟩

/-- **The gate keeps the receiver thread reading.**  In the code `spawn` of a main_thread_only pool *waits* for the task
that occupies the primary thread (`_try_send_to_primary_thread`: `self._primary_thread_task.waitfinish()`); called by the
receiver thread that would stop all message handling — the worker would not even notice the end of its connection (C11).
Whenever the receiver has passed the gate and is about to spawn, the main thread is idle and nothing is queued, so that wait
is never entered. -/
theorem C14_spawn_never_blocks_receiver {c : Config} {s : State} (hc : c.old = false) (h : Reachable c s) (k : Nat)
    (hr : s.r = .cleared k) : s.m = .idle ∧ s.queue = [] :=
  ((ginv_reachable hc h).rClearedI k hr).2

/-- the ghost flag `seqOk` is what it claims to be: set at submission iff every earlier channel had been
observed closed, and the initiator can observe a channel closed only after the worker closed it -/
theorem C14_seq_flag {c : Config} {s s' : State} :
    (step c s .submit = some s' → (s'.seqOk s.submitted = true ↔ ∀ j, j < s.submitted → s.closeObs j = true)) ∧
    (∀ k, step c s (.observe k) = some s' → isClosed (s.ph k) = true) := by
  constructor
  · intro hs
    simp only [step] at hs
    cases hs
    simp [upd, List.all_eq_true]
  · intro k hs
    simp only [step] at hs
    split at hs
    · assumption
    · cases hs

/-- **C14 (progress).** While some exec is on the wire, at the gate, queued, or its body has ended but the
epilogue (`close`, `complete.set()`) is not finished, a step other than the time-out expiry and other than a
body taking its time is enabled; a queued exec's body can begin at once. -/
theorem C14_progress {c : Config} {s : State} (hc : c.old = false) (h : Reachable c s) (k : Nat)
    (hk : s.ph k = .sent ∨ s.ph k = .atGate ∨ s.ph k = .queued ∨ (∃ o, s.ph k = .bodyDone o) ∨ (∃ o, s.ph k = .closed o)) :
    ∃ a, a ≠ .rTimeout ∧ a ≠ .submit ∧ (∀ j, a ≠ .observe j) ∧ (step c s a).isSome = true := by
  have inv := ginv_reachable hc h
  show Progress c s
  -- the main thread or the queue can move whenever `complete` is not set and the receiver is not about to spawn
  have busy : s.complete = false → (∀ j, s.r ≠ .cleared j) → Progress c s := fun hcf hnc => by
    by_cases hm : s.m = .idle
    · refine progress_queue hm fun hq => ?_
      obtain ⟨j, hj⟩ := inv.cFalse hcf hm hq
      exact hnc j hj
    · exact progress_main hm
  -- the receiver moves unless it is idle with nothing to read; where it waits for an unset `complete`, the main thread does
  have recv : (s.r = .idle → s.rq ≠ []) → Progress c s := fun hi => by
    by_cases hw : ∃ j, s.r = .waiting j ∧ s.complete = false
    · obtain ⟨j, hr, hcp⟩ := hw
      exact busy hcp (by simp [hr])
    · refine progress_recv hi fun j hr => ?_
      cases hcp : s.complete with
      | true => rfl
      | false => exact absurd ⟨j, hr, hcp⟩ hw
  rcases hk with hk | hk | hk | ⟨o, hk⟩ | ⟨o, hk⟩
  · exact recv fun _ hq => by have := (inv.phSent k).1 hk; rw [hq] at this; cases this
  · exact recv fun hr => by have := (inv.phGate k).1 hk; simp [hr] at this
  · have hq : s.queue ≠ [] := fun h0 => by have := (inv.phQ k).1 hk; rw [h0] at this; cases this
    exact progress_queue (inv.qC hq).2 hq
  · exact progress_main (by rw [(inv.phDone k o).1 hk]; nofun)
  · exact progress_main (by rw [(inv.phClosed k o).1 hk]; nofun)

def oldGate : Config := { timely := true, old := true }
def newGate : Config := { timely := true, old := false }

/-- exec 0 raises; the initiator sees channel 0 closed and only then submits exec 1 -/
def poisonSchedule : List Action :=
  [.submit, .rTake, .rWake, .rClear, .rSpawn, .mStart, .mFinish .raise, .mClose, .mSet, .observe 0,
   .submit, .rTake, .rTimeout]

/-- **D11, the pinned tree.** With the old `executetask` (event set on the success path only) the schedule above
is executable even under `Timely`: exec 1 was submitted sequentially (`seqOk 1`), the main thread is idle, and
yet exec 1 is refused with the deadlock text — and `complete` stays unset, so every later exec is refused too. -/
theorem C14_pinned_counterexample :
    ∃ s, runSteps oldGate init poisonSchedule = some s ∧ s.seqOk 1 = true ∧ s.ph 1 = .rejected ∧
      s.ph 0 = .finished .raise ∧ s.m = .idle ∧ s.complete = false ∧ s.queue = [] ∧ s.r = .idle :=
  ⟨_, rfl, rfl, rfl, rfl, rfl, rfl, rfl, rfl⟩

/-- the same history under the fixed `executetask`: the time-out step is not even enabled (`complete` is set),
exec 1 passes the gate and its body begins (non-vacuity witness for the theorems above: a reachable state with a
failed exec, a sequentially submitted successor, and both begun in order) -/
theorem C14_fixed_witness :
    runSteps newGate init poisonSchedule = none ∧
    ∃ s, runSteps newGate init (poisonSchedule.take 12 ++ [.rWake, .rClear, .rSpawn, .mStart]) = some s ∧
      s.seqOk 1 = true ∧ s.started = [0, 1] ∧ s.ph 0 = .finished .raise ∧ s.ph 1 = .running :=
  ⟨rfl, _, rfl, rfl, rfl, rfl, rfl⟩

/-- the fixed gate WITHOUT the timing assumption -/
def untimelyGate : Config := { timely := false, old := false }

/-- **`Timely` cannot be dropped (known finding C14-teardown-exceeds-grace).**  The channel of a body is closed before the
main thread has left `executetask` (the body's namespace is torn down, then the `finally` sets `complete`), and the
receiver waits for `complete` for one second only.  If that epilogue takes longer than the second — a finaliser in the
body's namespace that runs for 1.5 s is enough on the real worker — a `remote_exec` issued after the previous channel
closed is refused with the deadlock text although nothing is running: exec 1 is submitted sequentially (`seqOk 1`), the
main thread stands between `close` and `set`, the time-out fires. -/
theorem C14_untimely_counterexample :
    ∃ s, runSteps untimelyGate init
        [.submit, .rTake, .rWake, .rClear, .rSpawn, .mStart, .mFinish .ret, .mClose, .observe 0, .submit, .rTake, .rTimeout]
        = some s ∧ s.seqOk 1 = true ∧ s.ph 1 = .rejected ∧ s.ph 0 = .closed .ret ∧ s.m = .closedSt 0 .ret :=
  ⟨_, rfl, rfl, rfl, rfl, rfl⟩

/-- non-vacuity of `C14_overlap_rejected`: exec 1 submitted while body 0 runs -/
example : ∃ s, runSteps newGate init [.submit, .rTake, .rWake, .rClear, .rSpawn, .mStart, .submit, .rTake] = some s ∧
    s.r = .waiting 1 ∧ s.m = .running 0 ∧ s.seqOk 1 = false ∧ (step newGate s .rTimeout).isSome = true :=
  ⟨_, rfl, rfl, rfl, rfl, rfl⟩

/-- where `makegateway` takes the model of a spec that names none (the group's REMOTE default) and what `set_execmodel`
stores, read off `Group.makegateway` / `Group.set_execmodel` by the translator -/
theorem C14_execmodel_source_pinned :
    ExecChoice.codeSrc = .remoteDefault ∧
    Generated.setExecmodelSteps = [(0, "if self._gateways"), (1, "raise ValueError"), (0, "if remote_execmodel is None"),
      (1, "remote_execmodel = execmodel"), (0, "self._execmodel = get_execmodel(execmodel)"),
      (0, "self._remote_execmodel = get_execmodel(remote_execmodel)")] :=
  ⟨rfl, rfl⟩

/-- **C14 (who is a main_thread_only worker).** For every configuration `set_execmodel(e, r)` and every spec: the worker runs
with the model the spec names; a spec that names none gets `r`, and `e` when `r` was not given.  In particular the local model
never decides when a remote model was given. -/
theorem C14_worker_model (e : ExecChoice.Backend) (r spec : Option ExecChoice.Backend) :
    ExecChoice.workerModel ExecChoice.codeSrc (ExecChoice.setExecmodel e r) spec =
      some (match spec, r with
            | some b, _ => b
            | none, some b => b
            | none, none => e) := by
  rw [C14_execmodel_source_pinned.1]
  cases spec <;> cases r <;> rfl

/-- a group configured with `set_execmodel(local, "main_thread_only")` starts `main_thread_only` workers for every spec that
does not ask for something else, whatever the local model is — these are the workers `C14_main_thread` … speak about -/
theorem C14_configured_by_group (e : ExecChoice.Backend) :
    ExecChoice.workerModel ExecChoice.codeSrc (ExecChoice.setExecmodel e (some .mainThreadOnly)) none = some .mainThreadOnly := by
  rw [C14_execmodel_source_pinned.1]; rfl

/-- taking the default from the LOCAL model instead (seeded change C14-8): `set_execmodel("thread", "main_thread_only")`
silently starts a `thread` worker -/
theorem C14_local_default_counterexample :
    ExecChoice.workerModel .localDefault (ExecChoice.setExecmodel .thread (some .mainThreadOnly)) none = some .thread := by
  decide

end ExecnetVerif
