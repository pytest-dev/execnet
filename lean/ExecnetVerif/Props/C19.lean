/-
C19 — Channel files behave like files over the concatenated items.

The element type `α` is arbitrary (code points for `str` items, byte values for `bytes` items) and
`nl` is its newline; every theorem holds for both instantiations at once.
-/
import ExecnetVerif.Proofs.ChannelFile
namespace ExecnetVerif
open ChannelFile

variable {α : Type} [DecidableEq α]

/-- **C19 (reading = file over the concatenation).** For EVERY split of a text / byte string into channel
items (empty items included, any number of items) and EVERY sequence of `read(n)` / `readline()` calls, the
values returned by `channel.makefile('r')` are exactly the values the same calls return on an ordinary file
holding the concatenation of the items — regardless of `proxyclose` and of how the channel ended. -/
theorem C19_read (nl : α) (items : List (List α)) (proxyclose closed0 : Bool) (calls : List Call) :
    outputs (runReader nl items proxyclose closed0 calls) = outputs (runFile nl items.flatten calls) :=
  (run_refines nl calls _ (File.open items.flatten) (pending_init items proxyclose closed0)).1

/-- **C19 (nothing lost, duplicated or reordered).** For EVERY reader state and EVERY sequence of
`read(n)` / `readline()` calls, the concatenation of everything the calls returned, followed by what is
still unread (buffer and queued items), is exactly what was unread before — stated without reference to
the file model. -/
theorem C19_conserve (nl : α) (s : Reader α) (calls : List Call) :
    (outputs (Reader.run nl s calls)).flatten ++ (Reader.run nl s calls).2.pending = s.pending :=
  run_conserve nl calls s

/-- In particular, from a fresh `makefile('r')`, the returned values concatenate to a prefix of the
concatenated items, and to all of them once the reader is at the end. -/
theorem C19_conserve_fresh (nl : α) (items : List (List α)) (proxyclose closed0 : Bool) (calls : List Call) :
    (outputs (runReader nl items proxyclose closed0 calls)).flatten <+: items.flatten ∧
    ((runReader nl items proxyclose closed0 calls).2.atEnd →
      (outputs (runReader nl items proxyclose closed0 calls)).flatten = items.flatten) := by
  have h := run_conserve nl calls (Reader.init items proxyclose closed0)
  rw [pending_init] at h
  refine ⟨⟨_, h⟩, fun he => ?_⟩
  have := ((atEnd_iff _).1 he).2
  unfold runReader at this ⊢
  rw [this, List.append_nil] at h
  exact h

/-- **C19 (after the end).** Once the channel has ended and its data has been handed out (nothing queued,
buffer `None` or empty), every further `read(n)` / `readline()` returns the empty result, forever. -/
theorem C19_after_end (nl : α) (s : Reader α) (h : s.atEnd) (calls : List Call) :
    (∀ o ∈ outputs (Reader.run nl s calls), o = []) ∧ (Reader.run nl s calls).2.atEnd :=
  run_atEnd nl calls s h

/-- **C19 (when the end is reached).** A `read(n)` that returns fewer than `n` elements, or a `readline()`
whose result does not end in a newline (in particular an empty result), has hit the end of the channel:
the reader is at the end from then on (so `C19_after_end` applies), and if `proxyclose` was requested the
channel has been closed. -/
theorem C19_end_reached (nl : α) (s : Reader α) :
    (∀ n, (s.read n).1.length < n →
        (s.read n).2.atEnd ∧ (s.proxyclose = true → (s.read n).2.closed = true)) ∧
    ((s.readline nl).1.getLast? ≠ some nl →
        (s.readline nl).2.atEnd ∧ (s.proxyclose = true → (s.readline nl).2.closed = true)) :=
  ⟨fun n => (read_spec n s).ended, (readline_spec nl s).ended⟩

/-- **C19 (writing).** For every history of `write` / `flush` / `close` calls on a `makefile('w')` object
(interleaved with the channel being closed by other means): the items delivered to the peer are exactly the
arguments of the accepted `write` calls, one item per call, in call order; a `write` is refused with `OSError`
exactly when the channel is closed at that moment (and then delivers nothing); `flush` changes nothing. -/
theorem C19_write (w : Writer α) (ops : List (WOp α)) :
    (Writer.run w ops).2.sent = w.sent ++ acceptedWrites ops (Writer.run w ops).1 ∧
    (∀ x, w.step (.write x) = if w.closed then (.oserror, w) else (.ok, { w with sent := w.sent ++ [x] })) ∧
    w.step .flush = (.ok, w) :=
  ⟨writer_run_spec ops w, fun _ => rfl, rfl⟩

/-- **C19 (proxyclose).** `close()` on a channel file closes the channel if and only if `proxyclose` was
requested (writer and reader alike); and reading never closes the channel unless `proxyclose` was requested
(whatever the calls, however the channel ended). -/
theorem C19_proxyclose :
    (∀ w : Writer α, w.closed = false → ((w.step .close).2.closed = true ↔ w.proxyclose = true)) ∧
    (∀ s : Reader α, s.closed = false → (s.close.closed = true ↔ s.proxyclose = true)) ∧
    (∀ (nl : α) (s : Reader α) (calls : List Call), s.proxyclose = false →
        (Reader.run nl s calls).2.closed = s.closed) := by
  refine ⟨?_, ?_, ?_⟩
  · intro w h; simp [Writer.step, h]
  · intro s h; simp [Reader.close, h]
  · intro nl s calls h; exact run_closed_of_not_proxyclose nl calls s h

/-! ### Non-vacuity: concrete, non-trivial instances (elements are `Nat` codes, newline = 10) -/

/-- the D15 shape: items `b"ab\ncd\n"`, `b"ef"`; `readline` ×4 gives `ab\n`, `cd\n`, `ef`, `` on the reader
model and on the file -/
example : outputs (runReader 10 [[97, 98, 10, 99, 100, 10], [101, 102]] false false
      [.readline, .readline, .readline, .readline])
    = [[97, 98, 10], [99, 100, 10], [101, 102], []] := rfl

example : outputs (runFile 10 [97, 98, 10, 99, 100, 10, 101, 102] [.readline, .readline, .readline, .readline])
    = [[97, 98, 10], [99, 100, 10], [101, 102], []] := rfl

/-- a newline split off into its own item, empty items, reads across item boundaries, read(0) -/
example : outputs (runReader 10 [[], [97], [], [98, 10], [10, 99]] true false
      [.read 0, .read 1, .readline, .read 3, .readline, .read 2])
    = [[], [97], [98, 10], [10, 99], [], []] := rfl

/-- the hypothesis of `C19_after_end` is met by a reachable state (after a short read), and the
proxyclose conclusion of `C19_end_reached` is not vacuous -/
example : (Reader.run 10 (Reader.init [[97, 98]] true false) [.read 3]).2.atEnd ∧
    (Reader.run 10 (Reader.init [[97, 98]] true false) [.read 3]).2.closed = true ∧
    (Reader.run 10 (Reader.init [[97, 98]] true false) [.read 2]).2.closed = false := by decide

/-- conservation, concretely: a partial run returns a strict prefix and keeps the rest pending; the
`atEnd` premise of `C19_conserve_fresh` is met after a short read -/
example : (outputs (runReader 10 [[97, 10], [98, 99]] false false [.readline, .read 1])).flatten = [97, 10, 98] ∧
    (runReader 10 [[97, 10], [98, 99]] false false [.readline, .read 1]).2.pending = [99] ∧
    (runReader 10 [[97, 10], [98, 99]] false false [.readline, .read 5]).2.atEnd := by decide

/-- writer: two accepted writes, a flush, close with proxyclose, then a refused write -/
example : (Writer.run (Writer.init (α := Nat) true) [.write [1], .flush, .write [], .close, .write [2]])
    = ([.ok, .ok, .ok, .ok, .oserror], { sent := [[1], []], proxyclose := true, closed := true }) := rfl

/-- without proxyclose, close leaves the channel open and a later write is delivered -/
example : (Writer.run (Writer.init (α := Nat) false) [.write [1], .close, .write [2]])
    = ([.ok, .ok, .ok], { sent := [[1], [2]], proxyclose := false, closed := false }) := rfl

end ExecnetVerif
