/-
C05 — `Group.terminate(timeout)` returns promptly and leaves no local child behind.
Models: `Model/Terminate.lean` (the loop in virtual time), `Model/MakeGateway.lean` (one failing call),
`Model/MakeGatewayConc.lean` (overlapping calls).
-/
import ExecnetVerif.Proofs.TerminateLemmas
import ExecnetVerif.Model.MakeGateway
import ExecnetVerif.Proofs.MakeGatewayConcLemmas
import ExecnetVerif.Generated.Tables
namespace ExecnetVerif
open Terminate

/-- `wait_timeout = timeout * 2` -/
theorem C05_wait_factor_pinned : Generated.terminateWaitFactor = (waitFactor : Int) := by decide

/-- the loop of `Group.terminate` (test, exit of non-via members, `safe_terminate` over `_gateways_to_join`,
clearing the list), `_unregister` (remove, then append to `_gateways_to_join`) and which time-out each bounded
wait of `safe_terminate` uses -/
theorem C05_loop_pinned :
    Generated.terminateLoopTest = "self or self._gateways_to_join" ∧
    Generated.terminateLoopBody = ["set", "for: add(gw.spec.via)", "for: exit()", "def: join(); wait()",
      "def: kill()", "safe_terminate", "clear _gateways_to_join"] ∧
    Generated.unregisterSteps = ["remove(gateway)", "append(gateway)"] ∧
    Generated.safeTerminateWaits = [("get", "timeout"), ("waitall", "None if timeout is None else timeout * 2"),
      ("waitfinish", "None if timeout is None else timeout * 2")] :=
  ⟨rfl, rfl, rfl, rfl⟩

/-- **C05 (the loop terminates, the group is empty afterwards).** For every group whose via relation is
acyclic, every finite time-out and kill cost: after at most `members + 1` iterations of the `while` loop
both `_gateways` and `_gateways_to_join` are empty and `terminate` has returned. -/
theorem C05_loop_terminates (t c : Nat) (g : Group) (h : AcyclicVia g.members) :
    ∃ n, n ≤ g.members.length + 1 ∧
      (terminateRounds (some t) c n (start g)).g = ⟨[], []⟩ ∧
      (terminateRounds (some t) c n (start g)).clock.isSome :=
  ⟨g.members.length + 1, Nat.le_refl _,
    terminateRounds_finishes t c g.members.length (start g) rfl (Nat.le_refl _) h⟩

/-- the same for the `terminate` function of the model -/
theorem C05_group_empty (t c : Nat) (g : Group) (h : AcyclicVia g.members) :
    (terminate (some t) c g).g = ⟨[], []⟩ ∧ finished (terminate (some t) c g) = true := by
  obtain ⟨h1, h2⟩ := terminateRounds_finishes t c g.members.length (start g) rfl (Nat.le_refl _) h
  refine ⟨h1, ?_⟩
  simp only [finished, terminate, h2, h1, loopTest]
  rfl

/-- number of members whose kill function was called and never returns -/
def nBlocked (t c : Nat) (js : List Member) : Nat := countNone (js.map (termkillFinish (some t) c))

/-- **C05 (time bound of one round).** `safe_terminate(timeout=t)` over any list of members returns; within
`t + c` when every kill is effective (`c` = cost of a kill), and in general within
`t + c + (b + 1) · 2t` where `b` is the number of kills that never return (each costs one bounded reply wait,
the final `waitall` one more) — the factor 2 is `Generated.terminateWaitFactor`. -/
theorem C05_time_bound (t c : Nat) (js : List Member) :
    ∃ e, roundElapsed (some t) c js = some e ∧
      e ≤ t + c + (nBlocked t c js + 1) * (Int.toNat Generated.terminateWaitFactor * t) ∧
      ((∀ m ∈ js, m.kill = .effective) → e ≤ t + c) := by
  have hpin : Int.toNat Generated.terminateWaitFactor = waitFactor := by rw [C05_wait_factor_pinned]; rfl
  obtain ⟨cur, e, he, hle, hcur, hup, _⟩ := roundElapsed_spec t c js
  refine ⟨e, he, ?_, fun hk => ?_⟩
  · rw [hpin, nBlocked, Nat.succ_mul, Nat.mul_comm waitFactor t]
    omega
  · -- no kill blocks, so the reply waits end by `t + c`, and so does every pool task
    have hfin := fun m hm => effective_finish t c m (hk m hm)
    have := hup (t + c) hfin
    rw [countNone_eq_zero] at hcur
    · omega
    · intro f hf
      obtain ⟨m, hm, rfl⟩ := List.mem_map.1 hf
      intro hn
      have := (optLe_optMax.1 (hfin m hm)).1
      simp [hn, optLe] at this

/-- every member handed to some round's `safe_terminate` and known to be gone when that call returned -/
def reapedIds (r : Run) : List Nat := r.rounds.flatMap (·.reaped)
/-- every member handed to some round's `safe_terminate` -/
def joinedIds (r : Run) : List Nat := r.rounds.flatMap (fun rr => rr.joined.map (·.id))

theorem reapedIds_mono (t c : Nat) : ∀ (n : Nat) (r : Run), r.clock.isSome →
    ∀ x ∈ reapedIds r, x ∈ reapedIds (terminateRounds (some t) c n r)
  | 0, _, _, _, hx => hx
  | n + 1, r, hc, x, hx => by
    obtain ⟨h1, _, h3⟩ := roundStep_spec t c r hc
    exact reapedIds_mono t c n _ h1 x (by simp only [reapedIds, h3, List.flatMap_append, List.mem_append]; exact Or.inl hx)

theorem roundStep_reaps (t c : Nat) (hct : c ≤ t) (r : Run) (hc : r.clock.isSome) (m : Member)
    (hm : m ∈ r.g.toJoin ++ leaves r.g.members) (hk : m.kill = .effective) :
    m.id ∈ reapedIds (roundStep (some t) c r) := by
  obtain ⟨_, _, h3⟩ := roundStep_spec t c r hc
  obtain ⟨_, e, he, _⟩ := roundElapsed_spec t c (r.g.toJoin ++ leaves r.g.members)
  have hl : loopTest r.g = true := by
    rcases List.mem_append.1 hm with h | h
    · simp [loopTest, List.ne_nil_of_mem h]
    · simp [loopTest, List.ne_nil_of_mem (mem_of_mem_leaves h)]
  simp only [reapedIds, h3, hl, ↓reduceIte, List.flatMap_append, List.mem_append, List.flatMap_cons, List.flatMap_nil,
    List.append_nil, mkRound, he]
  exact Or.inr (List.mem_map.2 ⟨m, List.mem_filter.2 ⟨hm, round_reaps t c hct _ m hm hk e he⟩, rfl⟩)

/-- Every killable member is reaped, whatever the other members are: a leaf (or a member exited before) in the first
round, any other member after the round that took the leaves away. -/
theorem terminateRounds_reaps (t c : Nat) (hct : c ≤ t) : ∀ (k : Nat) (r : Run), r.clock.isSome →
    r.g.members.length ≤ k → AcyclicVia r.g.members →
    ∀ m ∈ r.g.members ++ r.g.toJoin, m.kill = .effective → m.id ∈ reapedIds (terminateRounds (some t) c (k + 1) r)
  | 0, r, hc, hlen, _, m, hm, hk => by
    rw [List.length_eq_zero_iff.1 (Nat.le_zero.1 hlen)] at hm
    exact roundStep_reaps t c hct r hc m (List.mem_append_left _ hm) hk
  | k + 1, r, hc, hlen, hac, m, hm, hk => by
    obtain ⟨h1, hlen', hac'⟩ := roundStep_next t c hc hlen hac
    have firstRound (h : m ∈ r.g.toJoin ++ leaves r.g.members) :=
      reapedIds_mono t c (k + 1) _ h1 _ (roundStep_reaps t c hct r hc m h hk)
    rcases List.mem_append.1 hm with hmm | hmj
    · rcases mem_leaves_or_rest hmm with hleaf | hrest
      · exact firstRound (List.mem_append_right _ hleaf)
      · refine terminateRounds_reaps t c hct k _ h1 hlen' hac' m ?_ hk
        rw [(roundStep_spec t c r hc).2.1]
        exact List.mem_append_left _ hrest
    · exact firstRound (List.mem_append_left _ hmj)

/-- **C05 (every child reaped).** Acyclic via relation, every member killable (its kill makes `wait` return —
the only OS assumption) with a kill that returns within the time-out: every member of the group, and every
member that was `exit()`ed before and not yet joined, is handed to `safe_terminate` in some round and its
process is known to be gone (waited, or killed and waited) when that round's `safe_terminate` returns. -/
theorem C05_every_child_reaped (t c : Nat) (hct : c ≤ t) (g : Group) (hac : AcyclicVia g.members)
    (hk : ∀ m ∈ g.members ++ g.toJoin, m.kill = .effective) :
    ∀ m ∈ g.members ++ g.toJoin, m.id ∈ reapedIds (terminate (some t) c g) :=
  fun m hm => terminateRounds_reaps t c hct g.members.length (start g) rfl (Nat.le_refl _) hac m hm (hk m hm)

/-- **C05 (via order).** In whichever round a member `w` is exited, no member exited in the same or in a
later round is proxied through `w`: every member proxied through `w` was exited in a strictly earlier round, while
`w` was still serving as its forwarder. -/
theorem C05_via_order : ∀ (n : Nat) (ms : List Member) (pre post : List (List Member)) (ws : List Member),
    exitRounds n ms = pre ++ ws :: post → ∀ w ∈ ws, ∀ m ∈ ws ++ post.flatten, m.via ≠ some w.id
  | 0, ms, pre, post, ws, h => by simp [exitRounds] at h
  | n + 1, ms, pre, post, ws, h => by
    by_cases he : ms = []
    · simp [he, exitRounds_nil] at h
    · rw [exitRounds_succ he] at h
      cases pre with
      | nil =>
        -- `ws` are the leaves of `ms`, and everybody exited now or later is in `ms`
        obtain ⟨rfl, rfl⟩ := List.cons.inj h
        intro w hw m hm
        refine isLeaf_iff.1 (List.mem_filter.1 hw).2 m ?_
        exact (List.mem_append.1 hm).elim mem_of_mem_leaves fun h => mem_of_mem_rest (exitRounds_subset n _ m h)
      | cons p pre' => exact C05_via_order n (rest ms) pre' post ws (List.cons.inj h).2

/-- The exit sets of the model's `terminate` are `exitRounds` of the members (ties the ordering theorem to the run); a
group with nobody left to exit but somebody left to join runs one round more, which exits nobody: `[[]]`. -/
theorem exits_eq_exitRounds (t c : Nat) : ∀ (n : Nat) (r : Run), r.clock.isSome →
    (terminateRounds (some t) c n r).rounds.map (·.exited) =
      r.rounds.map (·.exited) ++ (if r.g.members.isEmpty then
        (if r.g.toJoin.isEmpty ∨ n = 0 then [] else [[]]) else exitRounds n r.g.members) := by
  intro n
  induction n with
  | zero => intro r _; simp [terminateRounds, exitRounds]
  | succ n ih =>
    intro r hc
    obtain ⟨h1, h2, h3⟩ := roundStep_spec t c r hc
    show (terminateRounds (some t) c n (roundStep (some t) c r)).rounds.map (·.exited) = _
    rw [ih _ h1, h2, h3]
    obtain ⟨ms, tj⟩ := r.g
    cases ms with
    | nil => cases tj <;> simp [loopTest, rest, mkRound, leaves]
    | cons m ms =>
      -- what is left is the case of an empty rest: `rest (m :: ms) = [] → exitRounds n (rest (m :: ms)) = []`
      simpa [loopTest, mkRound, exitRounds_succ] using fun h => h ▸ exitRounds_nil n

/-- **C05 (via order, on the run).** The same for the rounds `terminate` actually performs. -/
theorem C05_via_order_run (t c : Nat) (g : Group) (hne : g.members ≠ []) (pre post : List (List Member))
    (ws : List Member) (h : (terminate (some t) c g).rounds.map (·.exited) = pre ++ ws :: post) :
    ∀ w ∈ ws, ∀ m ∈ ws ++ post.flatten, m.via ≠ some w.id := by
  have hme : g.members.isEmpty = false := by simpa using hne
  unfold terminate at h
  rw [exits_eq_exitRounds t c _ (start g) rfl] at h
  simp only [start, List.map_nil, List.nil_append, hme, Bool.false_eq_true, ↓reduceIte] at h
  exact C05_via_order _ _ pre post ws h

open MakeGateway in
/-- **C05 (failed makegateway, order "check the id before any IO").** Whatever step fails — the requested id
is taken, the process cannot be started, the child dies during bootstrap — no process and no member is left
behind by the failed call. -/
theorem C05_failed_make_leaves_nothing (w : World) (req : Option Nat) (f : Fault) (e : Err)
    (h : (makegateway .checkFirst w req f).1 = some e) :
    (makegateway .checkFirst w req f).2.procs = w.procs ∧ (makegateway .checkFirst w req f).2.ids = w.ids := by
  -- the check comes before the spawn; a failed spawn creates nothing; a failed bootstrap takes the child it pushed
  -- (`procs.tail` of `nextPid :: procs`) out again; `allocate` touches only the counter
  unfold makegateway at *
  cases req with
  | none =>
    by_cases h1 : w.ids.contains w.counter = true
    · simp_all [allocate]
    · cases f <;> simp_all [allocate, stepsOf, runSteps, doStep]
  | some i => by_cases h1 : w.ids.contains i = true <;> cases f <;> simp_all [allocate, stepsOf, runSteps, doStep]

open MakeGateway in
/-- **pinned tree (D12):** with the order of the pinned code — the id is checked by `_register`'s `assert`
only after the child process was started and bootstrapped — the statement above is false: asking for a live
id fails and leaves a new process that no group knows. -/
theorem C05_pinned_orphan_counterexample :
    ∃ (w : World) (req : Option Nat) (e : Err), (makegateway .pinned w req .none).1 = some e ∧
      (makegateway .pinned w req .none).2.procs ≠ w.procs ∧ (makegateway .pinned w req .none).2.ids = w.ids :=
  ⟨⟨[7], [100], 0, 101⟩, some 7, .idTaken, by decide⟩

/-- **pinned tree:** with the loop test `while self:` of the pinned code a member that was `exit()`ed
individually is never joined once no registered member remains -/
theorem C05_pinned_loop_test_counterexample :
    ∃ g : Group, g.toJoin ≠ [] ∧ loopTestPinned g = false ∧ loopTest g = true :=
  ⟨⟨[], [⟨1, none, .stuck, .effective⟩]⟩, by decide⟩

section Concurrent
open MakeGatewayConc

/-- where the current source reserves the id (before the `try`) and what its error path releases
(`_reserved_ids.discard(spec.id)`), read off `Group.makegateway`, `_reserve_id`, `_register` by the translator -/
theorem C05_reservation_pinned :
    codeCfg = good ∧
    Generated.reserveIdSteps = [(0, "if spec.id is None"), (1, "self._allocate_id(spec)"), (0, "else"),
      (1, "if not spec.id"), (2, "raise ValueError"), (1, "else"),
      (2, "if self._id_taken(spec.id)"), (3, "raise ValueError"), (0, "self._reserved_ids.add(spec.id)")] ∧
    Generated.registerSteps = ["self._gateways.append(gateway)", "self._reserved_ids.discard(gateway.id)"] :=
  ⟨by decide +kernel, rfl, rfl⟩

theorem MakeGatewayConc.inv_run_codeCfg (ops : List Op) : Inv (run codeCfg init ops).2 :=
  C05_reservation_pinned.1 ▸ inv_run init inv_init ops

/-- **C05 (overlapping makegateway calls).** For every interleaving of any number of makegateway calls — explicit
and automatic ids, refused calls, calls whose process cannot be started or dies during the bootstrap — every process the
group created is the process of a registered member (`terminate` therefore reaches it): no call is ever refused by
`_register` with its process left running, and no two members share an id. -/
theorem C05_no_orphan_concurrent (ops : List Op) :
    (run codeCfg init ops).2.orphans = [] ∧
    (run codeCfg init ops).2.procs = (run codeCfg init ops).2.members ∧
    (run codeCfg init ops).2.members.Nodup := by
  have h := MakeGatewayConc.inv_run_codeCfg ops
  exact ⟨h.noOrphans, h.procs, h.mnodup⟩

/-- no reservation is ever leaked: whenever no makegateway call is in flight nothing is reserved, so an id that is not a
member's id can always be used again — whatever mixture of refused, failed and successful calls came before -/
theorem C05_no_reservation_leak (ops : List Op) (hq : (run codeCfg init ops).2.inflight = []) :
    (run codeCfg init ops).2.reserved = [] := by
  refine List.eq_nil_iff_forall_not_mem.2 fun id hid => ?_
  obtain ⟨c, hc⟩ := (MakeGatewayConc.inv_run_codeCfg ops).owned id hid
  simp [hq] at hc

/-- a call that is refused because the id is taken changes nothing (in particular not the reservation of the call
that holds the id) -/
theorem C05_refused_call_inert (w : W) (c id : Nat) (h : (step codeCfg w (.begin c (some id))).1 = .idTaken) :
    (step codeCfg w (.begin c (some id))).2 = w := by
  rw [C05_reservation_pinned.1] at *
  simp only [step] at *
  split at h  -- is call `c` in flight already?
  · simp at h
  · split at h  -- is `id` taken?
    · rename_i hany ht
      simp [hany, ht, good]
    · simp at h

/-- a call that fails after its reservation gives the id back: the next call for that id is accepted -/
theorem C05_failed_call_releases (ops : List Op) (c id c2 : Nat)
    (hin : (c, id) ∈ (run codeCfg init ops).2.inflight)
    (hc2 : ((run codeCfg init ops).2.inflight.filter (·.1 != c)).any (·.1 == c2) = false) :
    let w1 := (step codeCfg (run codeCfg init ops).2 (.finish c true)).2
    (step codeCfg w1 (.begin c2 (some id))).1 = .reserved id := by
  have h := MakeGatewayConc.inv_run_codeCfg ops
  generalize (run codeCfg init ops).2 = w at *
  rw [C05_reservation_pinned.1]
  simp only [step, find_of_mem h hin]
  have hnr : id ∉ (w.reserved.erase id) := List.Nodup.not_mem_erase h.rnodup
  have hnm := h.not_member hin
  simp [release, good, taken, hnr, hnm, hc2]

/-- **the reservation inside the `try` block** (a well-meant "keep everything in one try") is not harmless: a refused
call releases the reservation of the call still in flight, a third call starts a second process for the id, and
`_register` refuses one of the two with its process left running, unknown to the group -/
theorem C05_reserve_inside_try_counterexample :
    (run { reserveBeforeTry := false, errorPathReleases := true } init
      [.begin 0 (some 7), .begin 1 (some 7), .begin 2 (some 7), .finish 0 false, .finish 2 false]).2.orphans = [7] := by
  decide

/-- an error path that does not release the id makes the id unusable for ever after one failed call -/
theorem C05_no_release_counterexample :
    (run { reserveBeforeTry := true, errorPathReleases := false } init
      [.begin 0 (some 7), .finish 0 true, .begin 1 (some 7)]).1 = [.reserved 7, .failed, .idTaken] := by
  decide

example : (run codeCfg init [.begin 0 (some 7), .begin 1 (some 7), .begin 2 none, .finish 0 false, .begin 3 (some 7),
    .finish 2 true, .begin 4 none, .finish 4 false]).1 =
    [.reserved 7, .idTaken, .reserved 0, .ok 7, .idTaken, .failed, .reserved 1, .ok 1] := by decide +kernel

end Concurrent

/-! ### non-vacuity -/

/-- a group with a via chain (3 through 2 through 1), a plain stuck member and a pre-exited member -/
def exampleGroup : Group :=
  { members := [⟨1, none, .exitsAfter 2, .effective⟩, ⟨2, some 1, .stuck, .effective⟩,
                ⟨3, some 2, .exitsAfter 40, .effective⟩, ⟨4, none, .stuck, .effective⟩],
    toJoin := [⟨9, none, .stuck, .effective⟩] }

example : AcyclicVia exampleGroup.members := ⟨id, by decide⟩
example : ∀ m ∈ exampleGroup.members ++ exampleGroup.toJoin, m.kill = .effective := by decide
example : (terminate (some 10) 1 exampleGroup).rounds.map (fun r => (r.exited.map (·.id), r.killed, r.elapsed)) =
    [([3, 4], [9, 3, 4], some 11), ([2], [2], some 11), ([1], [], some 2)] := by decide +kernel
example : reapedIds (terminate (some 10) 1 exampleGroup) = [9, 3, 4, 2, 1] := by decide +kernel
/-- a kill that never returns costs the bounded waits, not for ever -/
example : roundElapsed (some 10) 1 [⟨1, none, .stuck, .blocks⟩, ⟨2, none, .exitsAfter 3, .effective⟩] = some 40 := by
  decide

end ExecnetVerif
