/-
C12 — Serialized byte format is stable and version-compatible.
The Lean encoder/decoder in Model/Serializer.lean IS the frozen specification of dump format 2;
this file pins the tables regenerated from the code to it and states the format shape by shape.
-/
import ExecnetVerif.Proofs.SerRoundtrip
import ExecnetVerif.Generated.Tables
namespace ExecnetVerif

/-- **C12 (opcode letters).** The code's opcode table is exactly the frozen table of format 2
(one fixed letter per type), and the letters are pairwise distinct. -/
theorem C12_opcodes : Generated.opcodeTable = specOpcodeTable := rfl

theorem C12_opcodes_nodup : (specOpcodeTable.map Prod.snd).Nodup := by decide +kernel

theorem C12_constants :
    Generated.dumpVersion = dumpVersion.toNat ∧ Generated.fourByteIntMax = 2147483647 ∧
    Generated.floatFormat = "!d" ∧ Generated.complexFormat = "!dd" ∧
    ("Unserializer._read_int4", "unpack", "!i") ∈ Generated.structFormats ∧
    ("_Serializer._write_int4", "pack", "!i") ∈ Generated.structFormats := by decide +kernel

/-- which loader each opcode is bound to — the legacy opcodes LONG/LONGLONG share the loaders of
INT/LONGINT -/
def specLoaderTable : List (String × String) :=
  [("NONE", "load_none"), ("TRUE", "load_true"), ("FALSE", "load_false"), ("INT", "load_int"),
   ("LONGINT", "load_longint"), ("LONG", "load_int"), ("LONGLONG", "load_longint"),
   ("FLOAT", "load_float"), ("COMPLEX", "load_complex"), ("PY3STRING", "load_py3string"),
   ("PY2STRING", "load_py2string"), ("BYTES", "load_bytes"), ("UNICODE", "load_unicode"),
   ("NEWLIST", "load_newlist"), ("SETITEM", "load_setitem"), ("NEWDICT", "load_newdict"),
   ("BUILDTUPLE", "load_buildtuple"), ("SET", "load_set"), ("FROZENSET", "load_frozenset"),
   ("STOP", "load_stop"), ("CHANNEL", "load_channel")]

theorem C12_loaders : Generated.loaderTable = specLoaderTable := rfl

/-- the encoder dispatches on exactly these thirteen exact types -/
def specDispatchTable : List (String × String) :=
  [("type(None)", "save_NoneType"), ("bool", "save_bool"), ("bytes", "save_bytes"), ("str", "save_str"),
   ("int", "save_int"), ("float", "save_float"), ("complex", "save_complex"), ("list", "save_list"),
   ("dict", "save_dict"), ("tuple", "save_tuple"), ("set", "save_set"), ("frozenset", "save_frozenset"),
   ("Channel", "save_Channel")]

theorem C12_dispatch : Generated.dispatchTable = specDispatchTable := rfl

/-- the opcodes each save method may write (`save_long` is the unused Python-2 leftover) -/
def specSaveOpcodes : List (String × List String) :=
  [("save_NoneType", ["NONE"]), ("save_bool", ["TRUE", "FALSE"]), ("save_bytes", ["BYTES"]),
   ("save_str", ["PY3STRING"]), ("save_int", ["INT", "LONGINT"]), ("save_long", ["LONG", "LONGLONG"]),
   ("save_float", ["FLOAT"]), ("save_complex", ["COMPLEX"]), ("save_list", ["NEWLIST"]),
   ("save_dict", ["NEWDICT"]), ("save_tuple", ["BUILDTUPLE"]), ("save_set", ["SET"]),
   ("save_frozenset", ["FROZENSET"]), ("save_Channel", ["CHANNEL"])]

theorem C12_save_opcodes : Generated.saveOpcodes = specSaveOpcodes := rfl

theorem C12_int_small (i : Int) (h : inI32 i) : enc (.int i) = opINT :: be4 (toU32 i) := by
  simp [enc, encInt, h, packI32]

theorem C12_int_big (i : Int) (h : ¬ inI32 i) :
    enc (.int i) = opLONGINT :: (be4 (intText i).length ++ intText i) := by
  simp [enc, encInt, h]

theorem C12_float (b : Nat) : enc (.float b) = opFLOAT :: be8 b := rfl
theorem C12_complex (r i : Nat) : enc (.complex r i) = opCOMPLEX :: (be8 r ++ be8 i) := rfl
theorem C12_bytes (b : Bytes) : enc (.bytes b) = opBYTES :: (be4 b.length ++ b) := rfl
theorem C12_str (s : String) :
    enc (.str s) = opPY3STRING :: (be4 (utf8Encode s).length ++ utf8Encode s) := rfl
theorem C12_none : enc .none = [opNONE] := rfl
theorem C12_bool (b : Bool) : enc (.bool b) = [if b then opTRUE else opFALSE] := by
  cases b <;> rfl
/-- list: NEWLIST n, then per item: index, item, SETITEM -/
theorem C12_list (xs : List PyVal) :
    enc (.list xs) = opNEWLIST :: (be4 xs.length ++ encItems 0 xs) := rfl
theorem C12_list_item (i : Nat) (x : PyVal) (xs : List PyVal) :
    encItems i (x :: xs) = encInt i ++ (enc x ++ opSETITEM :: encItems (i + 1) xs) := rfl
/-- dict: NEWDICT, then per pair: key, value, SETITEM (insertion order) -/
theorem C12_dict (kvs : List (PyVal × PyVal)) : enc (.dict kvs) = opNEWDICT :: encPairs kvs := rfl
theorem C12_dict_item (k v : PyVal) (kvs : List (PyVal × PyVal)) :
    encPairs ((k, v) :: kvs) = enc k ++ (enc v ++ opSETITEM :: encPairs kvs) := rfl
/-- tuple / set / frozenset: post-order — items first, then opcode, then the count -/
theorem C12_tuple (xs : List PyVal) :
    enc (.tuple xs) = encAll xs ++ opBUILDTUPLE :: be4 xs.length := rfl
theorem C12_set (xs : List PyVal) : enc (.set xs) = encAll xs ++ opSET :: be4 xs.length := rfl
theorem C12_frozenset (xs : List PyVal) :
    enc (.frozenset xs) = encAll xs ++ opFROZENSET :: be4 xs.length := rfl
/-- version byte first, STOP last -/
theorem C12_envelope (v : PyVal) (h : dumpErr v = none) :
    dumps v = .ok (dumpVersion :: (enc v ++ [opSTOP])) := dumps_of_dumpErr v h

/-- `'M'` (py2 str): latin-1 text iff `py2str_as_py3str`, else bytes -/
theorem C12_legacy_py2str (cfg : Cfg) (b rest : Bytes) (st : List PyVal) (h : b.length < two31) :
    step cfg opPY2STRING (be4 b.length ++ (b ++ rest)) st =
      .cont rest ((if cfg.py2str_as_py3str then .str (latin1Decode b) else .bytes b) :: st) := by
  rw [step_PY2STRING, rdBytes_enc _ _ h]
  split <;> rfl

/-- `'N'` (py3 str): bytes iff `py3str_as_py2str`, else UTF-8 text -/
theorem C12_legacy_py3str (cfg : Cfg) (s : String) (rest : Bytes) (st : List PyVal)
    (h : (utf8Encode s).length < two31) :
    step cfg opPY3STRING (be4 (utf8Encode s).length ++ (utf8Encode s ++ rest)) st =
      .cont rest ((if cfg.py3str_as_py2str then .bytes (utf8Encode s) else .str s) :: st) := by
  rw [step_PY3STRING, rdBytes_enc _ _ h]
  split
  · rfl
  · simp [utf8_roundtrip]

/-- `'S'` (py2 unicode): always UTF-8 text, whatever the switches -/
theorem C12_legacy_unicode (cfg : Cfg) (s : String) (rest : Bytes) (st : List PyVal)
    (h : (utf8Encode s).length < two31) :
    step cfg opUNICODE (be4 (utf8Encode s).length ++ (utf8Encode s ++ rest)) st =
      .cont rest (.str s :: st) := by
  rw [step_UNICODE, rdBytes_enc _ _ h]
  simp [utf8_roundtrip]

/-- `'G'` (py2 long, 4-byte) loads exactly like `'F'`, `'I'` (py2 long, text) exactly like `'H'` -/
theorem C12_legacy_long (cfg : Cfg) (rest : Bytes) (st : List PyVal) :
    step cfg opLONG rest st = step cfg opINT rest st ∧
    step cfg opLONGLONG rest st = step cfg opLONGINT rest st := ⟨rfl, rfl⟩

/-- a foreign version byte is rejected with DataFormatError -/
theorem C12_version (cfg : Cfg) (b : UInt8) (rest : Bytes) (h : b ≠ dumpVersion) :
    loads cfg (b :: rest) = .error .dataFormat :=
  loads_version cfg b rest h

/-- with C01: anything a conforming writer produced for a well-formed value loads to that value -/
theorem C12_conforming_reader (v : PyVal) (h : WF v) :
    loads cfgPublic (dumpVersion :: (enc v ++ [opSTOP])) = .ok v :=
  loads_dump cfgPublic rfl rfl v h

end ExecnetVerif
