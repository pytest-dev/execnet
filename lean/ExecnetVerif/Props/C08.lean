/-
C08 — Message frames survive any chunking and never interleave on the wire.
-/
import ExecnetVerif.Proofs.FrameLemmas
import ExecnetVerif.Proofs.InterleaveLemmas
import ExecnetVerif.Proofs.SendDeferLemmas
import ExecnetVerif.Generated.Tables
namespace ExecnetVerif

/-- **C08 (header).** `struct.unpack("!bii", struct.pack("!bii", t, cid, len)) == (t, cid, len)` for
every type code in the signed-byte range, every channel id in the signed 32-bit range and every
payload length a `bytes` object can have below 2^31: the receiver sees the type, channel id and
length the sender wrote; the header always has 9 bytes. -/
theorem C08_header (t cid : Int) (len : Nat) (ht : inI8 t) (hc : inI32 cid) (hl : len < two31) :
    unpackHeader (packHeader t cid len) = some (t, cid, (len : Int)) ∧
      (packHeader t cid len).length = headerSize :=
  ⟨unpackHeader_packHeader t cid len ht hc hl, packHeader_length t cid len⟩

/-- **C08 (stream).** Any sequence of messages `to_io` accepts, written one after the other, is read
back by the peer's `from_io` loop as exactly that sequence — same types, channel ids and payloads,
nothing merged, split or left over — and then a clean EOF at a frame boundary. -/
theorem C08_stream (ms : List Msg) (h : wfMsgs ms) :
    decodeStream (ms.flatMap encodeMsg) = (ms, .eof) :=
  decodeStream_encodeAll ms h

/-- **C08 (framing is unambiguous).** Two sequences of messages `to_io` accepts that put the same bytes on
the wire are the same sequence: the byte stream determines the number of messages, their boundaries, types,
channel ids and payloads — no payload content can be mistaken for a frame boundary. -/
theorem C08_stream_injective (ms ms' : List Msg) (h : wfMsgs ms) (h' : wfMsgs ms')
    (hw : ms.flatMap encodeMsg = ms'.flatMap encodeMsg) : ms = ms' := by
  have h1 := C08_stream ms h
  have h2 := C08_stream ms' h'
  rw [hw, h2] at h1
  exact (Prod.mk.inj h1).1.symm

/-- **C08 (re-entrant sends, fix D30).** A send may be re-entered while its frame is being written (a finaliser run by
the garbage collector sends CLOSE / LAST_MESSAGE from the writing thread itself), to any depth (`SendDefer.SendTree`).
`_send` defers such messages and writes them behind the frame in progress (`SendDefer.drain` is its loop): the peer
decodes whole messages only, the message of the outer call first, and altogether exactly the messages that anybody
attempted to send — each once, none lost, none torn. -/
theorem C08_reentrant_sends (f : Msg) (ks : List (SendDefer.SendTree Msg))
    (h : wfMsgs (SendDefer.sendOne (.node f ks))) :
    decodeStream ((SendDefer.sendOne (.node f ks)).flatMap encodeMsg) = (SendDefer.sendOne (.node f ks), .eof) ∧
    (SendDefer.sendOne (.node f ks)).head? = some f ∧
    (SendDefer.sendOne (.node f ks)).Perm (SendDefer.SendTree.frames (.node f ks)) := by
  refine ⟨C08_stream _ h, ?_, ?_⟩
  · simp [SendDefer.sendOne, SendDefer.drain]
  · have := SendDefer.drain_perm [SendDefer.SendTree.node f ks]
    simpa [SendDefer.sendOne, SendDefer.SendTree.framesList] using this

/-- while frame 1 is written finalisers send 2 and 3; while 2 is written later another one sends 4, which goes behind 3 -/
example : SendDefer.sendOne (.node 1 [.node 2 [.node 4 []], .node 3 []]) = [1, 2, 3, 4] := by
  simp [SendDefer.sendOne, SendDefer.drain]

/-- **C08 (chunking).** However the pipe or socket splits or coalesces the bytes — every low-level
`read`/`recv` returning any non-empty part of what is available — the read-until-n loops of
`Popen2IO.read`/`SocketIO.read` make `from_io` decode exactly what it would decode from the
contiguous stream (for *every* byte stream `bs`, well-formed or not, complete or cut). -/
theorem C08_chunking (chunks : List Bytes) (bs : Bytes) (hflat : chunks.flatten = bs)
    (hne : ∀ c ∈ chunks, c ≠ []) : decodeStreamChunked chunks = decodeStream bs := by
  rw [← hflat]; exact decodeStreamChunked_eq chunks hne

/-- **C08 (atomic writers).** `frames t` is what sender thread `t` sends, in its order.  If each frame
reaches the wire as ONE atomic write (what the send lock of `BaseGateway._send` establishes for every
transport), then for any interleaving `wire` of the writers the peer decodes a sequence `m` of
messages ending in a clean EOF, where `m` is an interleaving of the frames sent: every message sent
is decoded exactly once (`Interleaving.perm`), unmodified, and each sender's messages stay in order
(`Interleaving.sublist`). -/
theorem C08_atomic_writers (frames : List (List Msg)) (wire : List Bytes)
    (hwf : ∀ t ∈ frames, wfMsgs t)
    (hwire : Interleaving (frames.map (List.map encodeMsg)) wire) :
    ∃ m, decodeStream wire.flatten = (m, .eof) ∧ Interleaving frames m ∧
      m.Perm frames.flatten ∧ (∀ t ∈ frames, t.Sublist m) := by
  obtain ⟨m, hm, hint⟩ := hwire.map_inv encodeMsg frames rfl
  refine ⟨m, ?_, hint, hint.perm, ?_⟩
  · have hwfm : wfMsgs m := by
      intro x hx
      obtain ⟨s, hs, hxs⟩ := hint.mem x hx
      exact hwf s hs x hxs
    rw [hm, ← List.flatMap_def]
    exact C08_stream m hwfm
  · intro t ht
    obtain ⟨i, hi, hget⟩ := List.mem_iff_getElem.mp ht
    exact hint.sublist i t (by rw [List.getElem?_eq_getElem hi, hget])

def splitWitnessA : Msg := ⟨4, 1, [0xAA]⟩
def splitWitnessB : Msg := ⟨4, 3, [0xBB]⟩

/-- **C08 (atomicity is necessary).** Two senders whose frames each reach the wire in two pieces
(header, then payload — e.g. an unlocked `sendall` that is pre-empted, or a `to_io` that writes header
and payload separately): the interleaving A.header, B.header, A.payload, B.payload is a legal
interleaving of the *pieces*, but the peer decodes neither `[A, B]` nor `[B, A]` — the first message
it sees carries a byte of B's header as payload.  So "one atomic write per frame" cannot be dropped
from `C08_atomic_writers`; the correspondence has to establish it for every transport. -/
theorem C08_split_writes_break :
    ∃ (pa1 pa2 pb1 pb2 : Bytes) (wire : List Bytes),
      wfMsg splitWitnessA ∧ wfMsg splitWitnessB ∧
      pa1 ++ pa2 = encodeMsg splitWitnessA ∧ pb1 ++ pb2 = encodeMsg splitWitnessB ∧
      Interleaving [[pa1, pa2], [pb1, pb2]] wire ∧
      (decodeStream wire.flatten).1.head? = some ⟨4, 1, [4]⟩ ∧
      ∀ m, Interleaving [[splitWitnessA], [splitWitnessB]] m → decodeStream wire.flatten ≠ (m, .eof) := by
  -- the wire is one well-formed frame (A's header with a byte of B's header as payload) and a rest
  have hw : ([packHeader 4 1 1, packHeader 4 3 1, [0xAA], [0xBB]] : List Bytes).flatten
      = encodeMsg ⟨4, 1, [4]⟩ ++ [0, 0, 0, 3, 0, 0, 0, 1, 0xAA, 0xBB] := by decide
  refine ⟨packHeader 4 1 1, [0xAA], packHeader 4 3 1, [0xBB],
    [packHeader 4 1 1, packHeader 4 3 1, [0xAA], [0xBB]], by decide, by decide, rfl, rfl, ?_, ?_, ?_⟩
  · exact .step 0 _ [[0xAA]] rfl (.step 1 _ [[0xBB]] rfl (.step 0 _ [] rfl (.step 1 _ [] rfl
      (.done (by simp)))))
  all_goals rw [hw, decodeStream_encodeMsg_append _ _ (by decide)]
  · rfl
  · -- the first message decoded is neither A nor B, but every member of such an `m` is one of them
    intro m hm heq
    have hx : (⟨4, 1, [4]⟩ : Msg) ∈ m := by rw [← (Prod.mk.inj heq).1]; exact List.mem_cons_self
    obtain ⟨s, hs, hxs⟩ := hm.mem _ hx
    simp only [List.mem_cons, List.not_mem_nil, or_false] at hs
    rcases hs with rfl | rfl <;> exact absurd hxs (by decide)

/-- `from_io` reads a 9-byte header; both directions use the format `"!bii"` -/
theorem C08_pins :
    Generated.headerSize = (headerSize : Int) ∧
    (Generated.structFormats.filter (fun e => e.1 == "Message.from_io" || e.1 == "Message.to_io")) =
      [("Message.from_io", "unpack", "!bii"), ("Message.to_io", "pack", "!bii")] ∧
    Generated.messageTable.map (fun e => (e.1, e.2.1)) =
      [("STATUS", 0), ("RECONFIGURE", 1), ("GATEWAY_TERMINATE", 2), ("CHANNEL_EXEC", 3),
       ("CHANNEL_DATA", 4), ("CHANNEL_CLOSE", 5), ("CHANNEL_CLOSE_ERROR", 6),
       ("CHANNEL_LAST_MESSAGE", 7)] ∧
    (∀ e ∈ Generated.messageTable, inI8 e.2.1) :=
  ⟨rfl, rfl, rfl, by decide⟩

/-- `BaseGateway._send`, statement by statement with the lock each runs under: the re-entrant call is recognised and deferred
under the send lock, the frame and then the deferred frames are written under it (`SendDefer.drain` transcribes this loop) -/
theorem C08_send_pinned :
    Generated.lockScopes.lookup "BaseGateway._send" = some
      [("-", "message = Message(msgcode, channelid, data)"), ("self._sendlock", "if self._sending"),
       ("self._sendlock", "self._send_deferred.append(message)"), ("self._sendlock", "return"),
       ("self._sendlock", "self._sending = True"), ("self._sendlock", "message.to_io(self._io)"),
       ("self._sendlock", "loop"), ("self._sendlock", "self._send_deferred.pop(0).to_io(self._io)"),
       ("self._sendlock", "finally"), ("self._sendlock", "self._sending = False"),
       ("-", "except (OSError, ValueError)"), ("-", "raise OSError")] :=
  rfl

example : wfMsgs exampleMsgs := by decide
example : Interleaving [[(1 : Nat), 2], [3]] [1, 3, 2] :=
  .step 0 1 [2] rfl (.step 1 3 [] rfl (.step 0 2 [] rfl (.done (by simp))))
example : (∀ c ∈ ([[1, 2], [3]] : List Bytes), c ≠ []) := by decide

end ExecnetVerif
