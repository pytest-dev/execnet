/-
C07 — Remote failures surface as RemoteError on that channel only.
-/
import ExecnetVerif.Proofs.Net.Got
import ExecnetVerif.Proofs.Net.Isolation
namespace ExecnetVerif
open Net

/-- **C07 (the error comes after all earlier items).** Whenever `receive` returns a RemoteError —
for a failing remote_exec body or a failing callback on the other side — every item that had been
accepted for that channel before the error has already been obtained: the error is queued behind
the data, never ahead of it. -/
theorem C07_error_after_items {fails : Item → Bool} {st : State} (h : Reachable fails st) (p : Side) (id e : Nat)
    (hr : (step fails st (.receive p id)).1 = .remoteError e) (hb : (st.side p).broken id = false) :
    (st.side p).got id = (st.side p).kept id :=
  Net.C07_error_after_items (ShapeInv_reachable h) (GotInv_reachable h) hr hb

/-- **C07 (exactly once).** A `receive` or `waitclose` that reports a RemoteError consumes it: the error
list of the channel shrinks by exactly that error, so each failure is reported once. -/
theorem C07_reported_once (fails : Item → Bool) (st : State) (p : Side) (id e : Nat) :
    ((step fails st (.waitclose p id)).1 = .remoteError e →
      ((st.side p).chans id).rerrs = e :: (((step fails st (.waitclose p id)).2.side p).chans id).rerrs) ∧
    ((step fails st (.receive p id)).1 = .remoteError e →
      ((st.side p).chans id).rerrs = e :: (((step fails st (.receive p id)).2.side p).chans id).rerrs) :=
  ⟨step_waitclose_remoteError, step_receive_remoteError⟩

/-- **C07 (isolation).** While the connection is up (`x.ioOpen`), handling a frame that concerns
channel `id` — data for a failing callback, a remote error, a close — leaves every other channel's
record, callback, callback log and obtained items untouched (other than channels carried inside the
item itself).  (Once the IO has been closed, a raising callback can no longer report its error: the
OSError of the failed CLOSE_ERROR write ends the receiver thread, whose epilogue closes every channel —
`Net.C07_failing_callback_io_closed`.) -/
theorem C07_isolation (fails : Item → Bool) (x : SideSt) (w : Bool) (f : Frame) (id : Nat)
    (hio : x.ioOpen = true) (ht : f.target = some id) (j : Nat) (hj : j ≠ id) (hc : j ∉ f.carried) :
    (handle fails x w f).chans j = x.chans j ∧ (handle fails x w f).cbs j = x.cbs j ∧
    (handle fails x w f).cbLog j = x.cbLog j ∧ (handle fails x w f).got j = x.got j ∧
    (handle fails x w f).kept j = x.kept j :=
  Net.C07_isolation fails x w f id hio ht j hj hc

/-- **C07 (the connection stays up).** While the connection is up (`x.ioOpen`), no channel-level
frame — whatever its content, not even a callback that raises — ends the receiver thread or closes
the IO.  (The hypothesis is needed: after the IO has been closed, a raising callback's CLOSE_ERROR
cannot be written and the escaping OSError ends the receiver thread.) -/
theorem C07_connection_stays (fails : Item → Bool) (x : SideSt) (w : Bool) (f : Frame) (hf : f ≠ .terminate)
    (hio : x.ioOpen = true) :
    (handle fails x w f).finished = x.finished ∧ (handle fails x w f).ioOpen = x.ioOpen ∧
    (handle fails x w f).gwerr = x.gwerr :=
  Net.C07_connection_stays fails x w f hf hio

/-- **C07 (the failing side).** When a callback raises on an item, the failing side sends exactly one
CLOSE_ERROR for that channel, unregisters the callback, and — if the channel object still exists —
closes it with the error attached as a proper RemoteError for its own `waitclose`/`receive`. -/
theorem C07_failing_callback (fails : Item → Bool) (x : SideSt) (wk : Bool) (id : Nat) (v : Item) (w : Bool)
    (hcb : x.cbs id = some w) (hf : fails v = true) (hio : x.ioOpen = true) :
    (handle fails x wk (.data id v)).out = x.out ++ [.closeErr id v.val] ∧
    (handle fails x wk (.data id v)).cbs id = none ∧
    ((handle fails x wk (.data id v)).chans id).registered = false ∧
    ((x.chans id).registered = true →
      ((handle fails x wk (.data id v)).chans id).closed = true ∧
      ((handle fails x wk (.data id v)).chans id).rclosed = true ∧
      ((handle fails x wk (.data id v)).chans id).rerrs = (x.chans id).rerrs ++ [v.val]) :=
  Net.C07_failing_callback fails x wk id v w hcb hf hio

/-! non-vacuity: a remote body raising error 5 after one item; the initiator gets the item, then the error
once, then EOF -/
example : ((run (fun _ => false) init [.remoteExec, .deliver .B, .send .B 1 ⟨7, []⟩, .execFinish 1 (.raise 5),
    .deliver .A, .deliver .A, .receive .A 1, .receive .A 1, .receive .A 1]).1
    = [.chan 1, .ok, .ok, .ok, .ok, .ok, .item ⟨7, []⟩, .remoteError 5, .eofError]) := by decide

end ExecnetVerif
