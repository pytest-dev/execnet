/-
C04 (byte level) — connection loss at any byte: a receiver whose stream is cut after `k` bytes decodes
exactly the frames lying completely before the cut, nothing partial, then EOFError.
The protocol-level half of C04 (what channels and waiters observe after the cut) is Props/C04.lean.
-/
import ExecnetVerif.Proofs.FrameLemmas
namespace ExecnetVerif

/-- **C04 (byte level).** For every sequence of messages the peer managed to write and every byte
offset `k` at which the connection breaks (inside a header, inside a payload, between frames, or
after the end), the survivor's `from_io` loop returns exactly the frames that lie completely before
the cut — `msgs.take (completeWithin msgs k)`, unmodified and in order — and then raises EOFError
(`Ending` says whether at a frame boundary, inside a header or inside a payload; never anything
else).  No partial or corrupt message is ever produced.  `framesBefore` is the specification of the
cut on the frame list; it does not decode bytes. -/
theorem C04_cut_frames (msgs : List Msg) (k : Nat) (h : wfMsgs msgs) :
    decodeStream ((msgs.flatMap encodeMsg).take k) = framesBefore msgs k ∧
    (framesBefore msgs k).1 = msgs.take (completeWithin msgs k) ∧
    ((msgs.flatMap encodeMsg).length ≤ k → framesBefore msgs k = (msgs, .eof)) :=
  ⟨decodeStream_take_encodeAll msgs k h, framesBefore_fst_eq_take msgs k, framesBefore_all msgs k⟩

/-- **C04 (byte level, any arrival pattern).** The same holds however the surviving prefix arrives
through the read-until-n loops (any chunking by the pipe or socket). -/
theorem C04_cut_frames_chunked (msgs : List Msg) (k : Nat) (h : wfMsgs msgs) (chunks : List Bytes)
    (hflat : chunks.flatten = (msgs.flatMap encodeMsg).take k) (hne : ∀ c ∈ chunks, c ≠ []) :
    decodeStreamChunked chunks = (msgs.take (completeWithin msgs k), (framesBefore msgs k).2) := by
  rw [decodeStreamChunked_eq chunks hne, hflat, (C04_cut_frames msgs k h).1,
    ← (C04_cut_frames msgs k h).2.1]

/-- the ending of a cut stream is one of the three EOF shapes (never a `struct.error`) -/
theorem C04_cut_ending (msgs : List Msg) (k : Nat) : (framesBefore msgs k).2 ≠ .badHeader := by
  fun_induction framesBefore msgs k with
  | case5 _ _ _ _ _ _ _ ih => exact ih
  | _ => simp

/-! ### non-vacuity: a cut inside the second payload, inside the third header, on a boundary -/

def cutExample : List Msg := [⟨4, 1, [1, 2, 3]⟩, ⟨4, -1, [9, 9, 9, 9]⟩, ⟨5, 1, []⟩]

example : wfMsgs cutExample := by decide
example : framesBefore cutExample 23 = ([⟨4, 1, [1, 2, 3]⟩], .midPayload) := by decide
example : framesBefore cutExample 30 = ([⟨4, 1, [1, 2, 3]⟩, ⟨4, -1, [9, 9, 9, 9]⟩], .midHeader) := by decide
example : framesBefore cutExample 25 = ([⟨4, 1, [1, 2, 3]⟩, ⟨4, -1, [9, 9, 9, 9]⟩], .eof) := by decide
example : completeWithin cutExample 23 = 1 := by decide

end ExecnetVerif
