/-
C20 — Specs parse faithfully and group ids stay unique.
The models are `Model/XSpec.lean` (execnet/xspec.py after the fix for D16) and `Model/Group.lean`
(execnet/multi.py after the fix for D12).
-/
import ExecnetVerif.Proofs.XSpecLemmas
import ExecnetVerif.Proofs.GroupLemmas
import ExecnetVerif.Generated.Tables
namespace ExecnetVerif
open ExecnetVerif.XSpec

/-- **C20 (faithful parse).** Every specification string made of unique, non-empty keys without
'=' and "//" that do not start with '_', and values without "//", parses to exactly those
attributes: `True` for bare keys, the text after the first '=' otherwise, `env:` keys collected
(prefix stripped) in `env`, and the string itself as `_spec`.  `okKeys` adds three conditions: at
least one component (`XSpec("")` raises IndexError, `C20_empty_witness`), and the two that the proof
forces, each a known finding reproduced on the real code: no component but the last ends in '/'
(`a=b/` + `c` prints as `a=b///c`, which splits as `a=b`, `/c`), and no plain key `env` (always
"duplicate key"). -/
theorem C20_parse (kvs : List (Str × Option Str)) (h : okKeys kvs) :
    parse (print kvs) = .ok (attrsOf kvs) := by
  rw [parse_print kvs h.1, if_pos (List.nodup_cons.2 ⟨h.2.2, h.2.1⟩)]

/-- the `env:` keys of the given list in order, prefix stripped, with their values -/
def XSpec.envOf (kvs : List (Str × Option Str)) : List (Str × Val) :=
  (kvs.filter (fun kv => isEnvKey kv.1)).map (fun kv => (kv.1.drop 4, toVal kv.2))

/-- **C20 (attribute lookup).** On the parsed object every given plain key reads back its value,
`env` reads back the collected environment, and every other public name reads `None`. -/
theorem C20_getattr (kvs : List (Str × Option Str)) (h : okKeys kvs) :
    (∀ k v, (k, v) ∈ kvs → isEnvKey k = false → getattr (attrsOf kvs) k = .ok (.val (toVal v))) ∧
    getattr (attrsOf kvs) envName = .ok (.env (envOf kvs)) ∧
    (∀ name c r, name = c :: r → c ≠ '_' → name ≠ envName → name ∉ kvs.map (·.1) →
      getattr (attrsOf kvs) name = .ok .none) := by
  obtain ⟨_, hnd, henv⟩ := h
  have hsub := attrsOf_keys_sublist kvs
  have hnotin : ∀ name, name ∉ kvs.map (·.1) → lookup name (attrsOf kvs).attrs = none :=
    fun name hn => lookup_of_not_mem _ _ fun hm => hn (hsub.subset hm)
  refine ⟨?_, ?_, ?_⟩
  · intro k v hm he
    have hm' : (k, toVal v) ∈ (attrsOf kvs).attrs :=
      List.mem_map.2 ⟨(k, v), by simp [List.mem_filter, hm, he], rfl⟩
    simp only [getattr, lookup_of_mem_nodup _ k _ (hnd.sublist hsub) hm']
  · simp only [getattr, hnotin envName henv, if_true]
    rfl
  · intro name c r hname hc hne hn
    subst hname
    simp [getattr, hnotin _ hn, hne, cons_ne_specName r hc, hc]

/-- **C20 (prints back unchanged).** Whatever string was accepted, `str(xspec)` is that string,
the parsed attributes and `env` are exactly its components split at their first '=', in order, and
printing those components back (`key` / `key=value` joined by "//") gives the string — for every
string, without any hypothesis. -/
theorem C20_print (s : Str) (x : Obj) (h : parse s = .ok x) :
    x.str = s ∧ x.attrs = plainItems (itemsOf s) ∧ x.env = envItems (itemsOf s) ∧
      printItems (itemsOf s) = s := by
  rw [parse_ok h]
  exact ⟨rfl, rfl, rfl, printItems_itemsOf s⟩

/-- **C20 (equality and hash by text).** Two parsed specs are `==` exactly when their strings are
equal, `!=` exactly when they differ, their hash is the hash of the string, and objects that are
`==` have the same attributes. -/
theorem C20_eq_hash (s t : Str) (x y : Obj) (hx : parse s = .ok x) (hy : parse t = .ok y) :
    (pyEq x y = true ↔ s = t) ∧ (pyNe x y = true ↔ s ≠ t) ∧ (x = y ↔ s = t) ∧
      (∀ hash : Str → Nat, pyHash hash x = hash s) ∧
      (pyEq x y = true → x.attrs = y.attrs ∧ x.env = y.env) := by
  rw [parse_ok hx, parse_ok hy]
  refine ⟨by simp [pyEq], by simp [pyNe], ⟨congrArg Obj.spec, fun e => by rw [e]⟩, fun _ => rfl, fun he => ?_⟩
  have e : s = t := by simpa [pyEq] using he
  rw [e]
  exact ⟨rfl, rfl⟩

/-- **C20 (duplicates).** A well-shaped list in which some key occurs twice — a plain key or an
`env:` key — is rejected with ValueError, and no other exception comes first. -/
theorem C20_dup (kvs : List (Str × Option Str)) (hs : okShape kvs = true)
    (hd : ¬ (kvs.map (·.1)).Nodup) : parse (print kvs) = .error .valueError := by
  rw [parse_print kvs hs, if_neg (fun h => hd (List.nodup_cons.1 h).2)]

/-- **C20 (forced hypothesis, known finding D17b).** The plain key `env` can never be given: it is
reported as a duplicate key (the instance attribute `env` exists before the loop starts). -/
theorem C20_env_key_rejected (kvs : List (Str × Option Str)) (hs : okShape kvs = true)
    (he : envName ∈ kvs.map (·.1)) : parse (print kvs) = .error .valueError := by
  rw [parse_print kvs hs, if_neg (fun h => (List.nodup_cons.1 h).1 he)]

def witnessKvs : List (Str × Option Str) := [(['a'], some ['b', '/']), (['c'], none)]

/-- **C20 (forced hypothesis, known finding D17a).** `a=b/` followed by `c` meets every condition of
the property but prints as `a=b///c`, which parses to `a=b` and a key `/c`. -/
theorem C20_trailing_slash_witness :
    (witnessKvs.all (fun kv => keyOk kv.1 && valOk kv.2) = true ∧ (witnessKvs.map (·.1)).Nodup) ∧
      print witnessKvs = "a=b///c".toList ∧
      parse (print witnessKvs) =
        .ok { spec := "a=b///c".toList, attrs := [(['a'], .str ['b']), (['/', 'c'], .true)], env := [] } ∧
      parse (print witnessKvs) ≠ .ok (attrsOf witnessKvs) := by
  decide +kernel

/-- **C20 (forced hypothesis).** The empty list of keys prints as the empty string, which is
rejected with IndexError (`key[0]` on the empty key). -/
theorem C20_empty_witness : parse (print []) = .error .indexError := by decide +kernel

/-- the literals the model is built on are the ones in the source (regenerated on every run): the
separator, the '=' of `find`, the `env:` prefix and its length, the '_' test, every class-level
default is `None` (so an absent name reads `None` whether it is found on the class or reaches
`__getattr__`), and automatically allocated ids are `"gw" + str(counter)` -/
theorem C20_defaults_pinned :
    Generated.xspecSplitLits = ["//"] ∧ Generated.xspecFindLits = ["="] ∧
    Generated.xspecStartswithLits.all (·.toList == envPrefix) = true ∧
    Generated.xspecFirstCharTests = ["key[0]==_"] ∧
    Generated.xspecSlices = ["key[4:]", "keyvalue[:i]", "keyvalue[i + 1:]"] ∧
    Generated.xspecDefaults.all
      (fun p => p.2 == "None" && p.1.toList.head? != some '_' && p.1 != "env") = true ∧
    Generated.autoIdExprs = [("gw", "str(self._autoidcounter)")] :=
  ⟨rfl, rfl, rfl, rfl, rfl, by decide +kernel, rfl⟩

/-- a list with '=', ':', '/', space, unicode, an `env:` key, a bare key and an empty value -/
def exampleKvs : List (Str × Option Str) :=
  [("popen".toList, none), ("python".toList, some "/usr/bin/python3 -u".toList),
   ("env:PATH".toList, some "/a:/b=c".toList), ("é k:/x".toList, some "ü=1=2".toList),
   ("env:E".toList, none), ("chdir".toList, some "".toList), ("z".toList, some "q/".toList)]

example : okKeys exampleKvs := by
  decide +kernel

example : print exampleKvs =
    "popen//python=/usr/bin/python3 -u//env:PATH=/a:/b=c//é k:/x=ü=1=2//env:E//chdir=//z=q/".toList := by
  decide +kernel

example : (attrsOf exampleKvs).env =
    [("PATH".toList, .str "/a:/b=c".toList), ("E".toList, .true)] := by
  decide +kernel

example : okShape [(['a'], some ['1']), ("env:A".toList, none), ("env:A".toList, some ['2'])] = true ∧
    ¬ ([(['a'], some ['1']), ("env:A".toList, none), ("env:A".toList, some ['2'])].map (·.1)).Nodup := by
  decide +kernel

open ExecnetVerif.Group

/-- **C20 (unique ids).** In every state reachable by any interleaving of concurrent
`allocate_id` / `makegateway` (reserve · create · register or release) / `exit` steps, no two live
gateways share an id; moreover no id that is being created is live or being created twice, and
every thread inside `makegateway` owns its reservation alone. -/
theorem C20_unique_ids (g : State) (h : Reachable g) :
    g.liveIds.Nodup ∧ (g.liveIds ++ g.reserved).Nodup ∧
      (∀ t u i, holds (g.pcs t) i → holds (g.pcs u) i → t = u) := by
  have inv := inv_reachable h
  exact ⟨(List.nodup_append.1 inv.nodup).1, inv.nodup, inv.excl⟩

/-- **C20 (taken ids fail early, nothing is left behind).** In a reachable state a `makegateway`
with an explicit id that is live or reserved raises ValueError in its first step and changes
nothing (no reservation, no process: the thread never reaches the creation step); and a thread that
created its gateway always registers it (the ValueError branch of `_register` is dead). -/
theorem C20_taken_fails_early (g : State) (h : Reachable g) (t : Nat) (i : Id) :
    (g.pcs t = .idle → (i ∈ g.liveIds ∨ i ∈ g.reserved) →
        step g t (.beginExplicit i) = (g, .valueError)) ∧
    (g.pcs t = .created i → (step g t .register).2 = .ok ∧
        (step g t .register).1.liveIds = g.liveIds ++ [i]) := by
  constructor
  · intro hpc htk
    simp [step, hpc, taken_iff.2 htk.symm]
  · intro hpc
    have := created_not_live (inv_reachable h) t i (Or.inr hpc)
    simp only [State.liveIds, List.contains_eq_mem, List.mem_map, decide_eq_false_iff_not] at this
    simp [step, hpc, this, State.liveIds]

/-- **C20 (automatic ids).** Under any interleaving the automatically allocated ids handed out are
pairwise distinct; an allocation step either fails with ValueError (the candidate `gw<n>` is live
or reserved, e.g. taken by an explicit id) or returns an id that is neither live, nor reserved, nor
ever handed out before — and the counter advances in both cases. -/
theorem C20_auto_distinct (g : State) (h : Reachable g) :
    g.autos.Nodup ∧
    ∀ t op, (op = Op.allocAuto ∨ op = Op.beginAuto) → g.pcs t = .idle →
      (step g t op).1.counter = g.counter + 1 ∧
      (((step g t op).2 = .valueError ∧ (autoId g.counter ∈ g.liveIds ∨ autoId g.counter ∈ g.reserved)) ∨
       ((step g t op).2 = .id (autoId g.counter) ∧ autoId g.counter ∉ g.liveIds ∧
          autoId g.counter ∉ g.reserved ∧ autoId g.counter ∉ g.autos)) := by
  have inv := inv_reachable h
  refine ⟨inv.autosNodup, ?_⟩
  intro t op hop hpc
  have hfresh := (inv_iff.1 inv).2.1.fresh
  cases htk : g.taken (autoId g.counter) with
  | true =>
    have := (taken_iff.1 htk).symm
    rcases hop with rfl | rfl <;> simp [step, hpc, htk, this]
  | false =>
    obtain ⟨hr, hl⟩ := taken_false htk
    rcases hop with rfl | rfl <;> simp [step, hpc, htk, hr, hl, hfresh]

/-- **C20 (container protocol).** In every reachable state lookup by index, by id, by object and
membership agree with iteration order: the i-th gateway of `list(group)` is `group[i]`, is what
`group[its id]` and `group[itself]` return, and is `in` the group by id and by object; an id that no
iterated gateway has raises KeyError (`none`) and is not `in` the group. -/
theorem C20_container (g : State) (h : Reachable g) :
    (∀ i w, (iter g)[i]? = some w →
        getIdx g i = some w ∧ getId g w.id = some w ∧ getObj g w.obj = some w ∧
          containsId g w.id = true ∧ containsObj g w.obj = true) ∧
    (∀ i, i ∉ (iter g).map (·.id) → getId g i = none ∧ containsId g i = false) ∧
    (∀ i, containsId g i = true ↔ i ∈ (iter g).map (·.id)) := by
  have inv := inv_reachable h
  have notin : ∀ i, i ∉ g.live.map (·.id) → getId g i = none := fun i hi =>
    List.find?_eq_none.2 fun x hx e => hi (List.mem_map.2 ⟨x, hx, beq_iff_eq.1 e⟩)
  refine ⟨fun i w hw => ?_, fun i hi => ⟨notin i hi, by rw [containsId, notin i hi]; rfl⟩, fun i => ?_⟩
  · have hmem : w ∈ g.live := List.mem_of_getElem? hw
    have h1 : getId g w.id = some w :=
      find?_key_of_nodup Gw.id g.live (List.nodup_append.1 inv.nodup).1 w hmem
    have h2 : getObj g w.obj = some w := find?_key_of_nodup Gw.obj g.live inv.objNodup w hmem
    exact ⟨hw, h1, h2, by rw [containsId, h1]; rfl, by rw [containsObj, h2]; rfl⟩
  · simp [containsId, getId, iter, List.find?_isSome]

/-! ### non-vacuity (Group): three threads, an explicit id colliding with an automatic one, a
failed creation, an exit -/

def exampleSchedule : List (Nat × Op) :=
  [(0, .beginAuto), (1, .beginExplicit "gw0".toList), (1, .beginExplicit "gw1".toList),
   (2, .beginAuto), (2, .beginAuto), (0, .createOk), (1, .createFail), (2, .createOk),
   (2, .register), (0, .register), (1, .beginExplicit "gw1".toList), (1, .createOk), (1, .register),
   (0, .unregister 0), (0, .allocAuto)]

example : (run init exampleSchedule).2 =
    [.id "gw0".toList, .valueError, .ok, .valueError, .id "gw2".toList, .ok, .ok, .ok, .ok, .ok, .ok,
     .ok, .ok, .ok, .id "gw3".toList] := by
  decide +kernel

example : (run init exampleSchedule).1.liveIds = ["gw0".toList, "gw1".toList] := by
  decide +kernel

example : Reachable (run init exampleSchedule).1 := ⟨exampleSchedule, rfl⟩

end ExecnetVerif
