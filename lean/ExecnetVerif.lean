import ExecnetVerif.Model.Bytes
import ExecnetVerif.Model.Value
import ExecnetVerif.Model.Serializer
import ExecnetVerif.Model.SerializerSpec
import ExecnetVerif.Driver.ValueIO
import ExecnetVerif.Generated.Tables
import ExecnetVerif.Proofs.BytesLemmas
import ExecnetVerif.Proofs.SerBasic
import ExecnetVerif.Proofs.SerRoundtrip
import ExecnetVerif.Proofs.SerGrammar
import ExecnetVerif.Props.C01
import ExecnetVerif.Props.C12
import ExecnetVerif.Props.C13
import ExecnetVerif.Model.ChannelFile
import ExecnetVerif.Driver.ChannelFileIO
import ExecnetVerif.Proofs.ChannelFile
import ExecnetVerif.Props.C19
import ExecnetVerif.Model.XSpec
import ExecnetVerif.Model.Group
import ExecnetVerif.Driver.XSpecIO
import ExecnetVerif.Proofs.XSpecLemmas
import ExecnetVerif.Proofs.GroupLemmas
import ExecnetVerif.Props.C20
import ExecnetVerif.Model.Net
import ExecnetVerif.Driver.NetIO
import ExecnetVerif.Driver.NetCheck
import ExecnetVerif.Proofs.Net.Defs
import ExecnetVerif.Proofs.Net.Plumbing
import ExecnetVerif.Proofs.Net.Step
import ExecnetVerif.Proofs.Net.Cell
import ExecnetVerif.Proofs.Net.Wire
import ExecnetVerif.Proofs.Net.Ids
import ExecnetVerif.Proofs.Net.FieldLemmas
import ExecnetVerif.Proofs.Net.Shape
import ExecnetVerif.Proofs.Net.Got
import ExecnetVerif.Proofs.Net.Cb
import ExecnetVerif.Proofs.Net.Fin
import ExecnetVerif.Proofs.Net.Close
import ExecnetVerif.Proofs.Net.Isolation
import ExecnetVerif.Props.C02
import ExecnetVerif.Props.C03
import ExecnetVerif.Props.C04
import ExecnetVerif.Props.C07
import ExecnetVerif.Props.C10
import ExecnetVerif.Props.C18
import ExecnetVerif.Model.Path
import ExecnetVerif.Model.Rsync
import ExecnetVerif.Driver.RsyncIO
import ExecnetVerif.Generated.RsyncTables
import ExecnetVerif.Proofs.PathLemmas
import ExecnetVerif.Proofs.RsyncBasic
import ExecnetVerif.Proofs.RsyncPhases
import ExecnetVerif.Proofs.RsyncExpect
import ExecnetVerif.Props.C17
import ExecnetVerif.Model.Bootstrap
import ExecnetVerif.Driver.BootstrapIO
import ExecnetVerif.Generated.Shipped
import ExecnetVerif.Props.C15
import ExecnetVerif.Model.RemoteExec
import ExecnetVerif.Driver.RemoteExecIO
import ExecnetVerif.Proofs.RemoteExecLemmas
import ExecnetVerif.Props.C06
import ExecnetVerif.Model.WorkerExit
import ExecnetVerif.Driver.ExitIO
import ExecnetVerif.Props.C11
import ExecnetVerif.Model.Terminate
import ExecnetVerif.Model.MakeGateway
import ExecnetVerif.Driver.TermIO
import ExecnetVerif.Proofs.TerminateLemmas
import ExecnetVerif.Props.C05
import ExecnetVerif.Model.Frame
import ExecnetVerif.Model.Chunk
import ExecnetVerif.Model.Proxy
import ExecnetVerif.Driver.FrameIO
import ExecnetVerif.Proofs.FrameLemmas
import ExecnetVerif.Proofs.InterleaveLemmas
import ExecnetVerif.Proofs.ProxyLemmas
import ExecnetVerif.Props.C08
import ExecnetVerif.Props.C04Bytes
import ExecnetVerif.Props.C16
import ExecnetVerif.Model.Pool
import ExecnetVerif.Driver.PoolIO
import ExecnetVerif.Proofs.PoolInv
import ExecnetVerif.Proofs.PoolFrame
import ExecnetVerif.Proofs.PoolReach
import ExecnetVerif.Proofs.PoolProgress
import ExecnetVerif.Proofs.PoolMeasure
import ExecnetVerif.Props.C09
import ExecnetVerif.Model.ExecGate
import ExecnetVerif.Driver.GateIO
import ExecnetVerif.Proofs.GateInv
import ExecnetVerif.Proofs.GateSteps
import ExecnetVerif.Proofs.PoolMto
import ExecnetVerif.Props.C14
import ExecnetVerif.Model.NetFine
import ExecnetVerif.Driver.NetFineIO
import ExecnetVerif.Model.MakeGatewayConc
import ExecnetVerif.Proofs.MakeGatewayConcLemmas
import ExecnetVerif.Driver.MakeConcIO
import ExecnetVerif.Proofs.Net.FineAbs
import ExecnetVerif.Proofs.Net.FineBasic
import ExecnetVerif.Proofs.Net.FineComm
import ExecnetVerif.Proofs.Net.FineSim
import ExecnetVerif.Proofs.Net.FineWrite
import ExecnetVerif.Proofs.Net.FineSideStep
import ExecnetVerif.Props.NetFine
import ExecnetVerif.Props.NetGranularity
import ExecnetVerif.Model.SendDefer
import ExecnetVerif.Proofs.SendDeferLemmas
import ExecnetVerif.Model.SpawnFail
import ExecnetVerif.Proofs.SpawnFailLemmas
import ExecnetVerif.Driver.SpawnFailIO
import ExecnetVerif.Model.ExecChoice
import ExecnetVerif.Driver.ExecChoiceIO
